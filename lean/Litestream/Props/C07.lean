import Litestream.Lemmas.Retention
/-!
# C07 — Retention never deletes what the latest restore needs

Theorems about the retention models of `Model/Retention.lean` (the functions the driver executes
against the real `DB`/`Compactor`/`Store` retention calls) composed with C08's planner theorems.
They hold for every file set of every size and for all file ages (`created` is unconstrained).
-/
namespace Litestream
namespace C07

/-- The replica invariant.  `Covered` is what "an L0 file may go once L1 covers it" relies on: only
    level-0 retention needs it, and every operation preserves it. -/
structure Good (r : List FileInfo) (N : Nat) : Prop where
  wf : FilesWF r
  covered : Covered r
  latest : ∃ P, planFiles r latest = .ok P ∧ chainEnd 0 P = N

theorem Good.reach {r N} (hg : Good r N) : Reach r N := (latest_iff_reach hg.wf).mp hg.latest

theorem Good.of_reach {r N} (hwf : FilesWF r) (hc : Covered r) (hr : Reach r N) : Good r N :=
  ⟨hwf, hc, (latest_iff_reach hwf).mpr hr⟩

theorem reach_closed {r N P} (hwf : FilesWF r) (hP : planFiles r latest = .ok P) (hN : chainEnd 0 P = N) :
    ∀ f, Vis r f → f.max ≤ N ∧ f.min ≤ N + 1 :=
  ((latest_iff_reach hwf).mp ⟨P, hP, hN⟩).closed

theorem Good.del {r r' N} (hg : Good r N) (h : SafeDel r r') : Good r' N :=
  .of_reach (filesWF_sub hg.wf h.sub) (hg.covered.del h) (hg.reach.del h)

theorem newest_snapshot_kept {r S} (l : Nat) (p : FileInfo → Bool)
    (hS : (listLevel r snapshotLevel).getLast? = some S) :
    S ∈ withLevel r l (keepButLast p (listLevel r l)) := by
  by_cases hl : l = snapshotLevel
  · subst hl; exact mem_withLevel.mpr (Or.inr (mem_keepButLast.mpr (Or.inr hS)))
  · obtain ⟨h1, h2⟩ := mem_listLevel.mp (List.mem_of_getLast? hS)
    exact mem_withLevel.mpr (Or.inl ⟨h1, by omega⟩)

/-- `keepButLast` never drops the last listed file, so the newest snapshot stays and anchors the rest. -/
theorem level_del_safe {r : List FileInfo} (hwf : FilesWF r) (l : Nat) (p : FileInfo → Bool)
    (hp : ∀ f ∈ listLevel r l, p f = true → f.max ≤ snapMax r) :
    SafeDel r (withLevel r l (keepButLast p (listLevel r l))) := by
  obtain ⟨Q0, hQ0⟩ := snap_anchor hwf fun S hS => newest_snapshot_kept l p hS
  refine SafeDel.withLevel (fun f hf => ?_) hQ0 fun f hf hlt => mem_keepButLast.mpr (Or.inl ⟨hf, ?_⟩)
  · rcases mem_keepButLast.mp hf with h | h
    · exact h.1
    · exact List.mem_of_getLast? h
  · cases hpf : p f with
    | false => rfl
    | true => have := hp f hf hpf; omega

theorem snapRet_safe {r : List FileInfo} (hwf : FilesWF r) (thr : Nat) : SafeDel r (snapRetDB thr r).replica :=
  snapRetDB_replica thr r ▸ level_del_safe hwf snapshotLevel (olderThan thr) fun _ hf _ => le_snapMax hwf hf

/-- At least one snapshot remains (both variants: they delete the same files). -/
theorem snapshot_retention_keeps_one {r : List FileInfo} (thr : Nat)
    (h : listLevel r snapshotLevel ≠ []) :
    listLevel (snapRetDB thr r).replica snapshotLevel ≠ [] ∧
    listLevel (snapRetCompactor thr r).replica snapshotLevel ≠ [] := by
  have hS := List.getLast?_eq_some_getLast h
  have hm := newest_snapshot_kept snapshotLevel (olderThan thr) hS
  rw [← snapRetDB_replica] at hm
  have := List.ne_nil_of_mem (mem_listLevel.mpr ⟨hm, (mem_listLevel.mp (List.mem_of_getLast? hS)).2⟩)
  exact ⟨this, snapRetCompactor_replica thr r ▸ this⟩

/-- The floor handed to `EnforceRetentionByTXID` does not exceed some snapshot's MaxTXID: the call is safe
    only then, and it is what both snapshot-retention variants return (`floor_ok`). -/
def TxOK (tx : Nat) (r : List FileInfo) : Prop := tx = 0 ∨ ∃ S ∈ r, S.level = snapshotLevel ∧ tx ≤ S.max

theorem le_snapMax_of_txOK {tx r} (hwf : FilesWF r) (htx : TxOK tx r) : tx ≤ snapMax r := by
  rcases htx with h | ⟨S, hS, hl, hle⟩
  · omega
  · exact Nat.le_trans hle (le_snapMax hwf (mem_listLevel.mpr ⟨hS, hl⟩))

theorem txOK_of_le_snapMax {fl r r'} (hfl : fl ≤ snapMax r)
    (h : ∀ S, (listLevel r snapshotLevel).getLast? = some S → S ∈ r') : TxOK fl r' := by
  cases hS : (listLevel r snapshotLevel).getLast? with
  | none => rw [snapMax_of_none hS] at hfl; exact Or.inl (Nat.le_zero.mp hfl)
  | some S =>
    rw [snapMax_of_last hS] at hfl
    exact Or.inr ⟨S, h S hS, (mem_listLevel.mp (List.mem_of_getLast? hS)).2, hfl⟩

theorem txidRet_safe {r : List FileInfo} (hwf : FilesWF r) (l tx : Nat) (htx : TxOK tx r) :
    SafeDel r (txidRet l tx r).replica :=
  txidRet_replica l tx r ▸ level_del_safe hwf l (belowTx tx) fun _ _ hp =>
    Nat.le_trans (Nat.le_of_lt (of_decide_eq_true hp)) (le_snapMax_of_txOK hwf htx)

theorem TxOK.withLevel {tx r l K} (h : TxOK tx r) (hl : l ≠ snapshotLevel) : TxOK tx (withLevel r l K) := by
  rcases h with h | ⟨S, hS, hSl, hle⟩
  · exact Or.inl h
  · exact Or.inr ⟨S, mem_withLevel.mpr (Or.inl ⟨hS, by omega⟩), hSl, hle⟩

/-- Both floors are 0 or the MaxTXID of a listed snapshot, hence bounded by the newest snapshot, which
    survives. -/
theorem floor_ok {r : List FileInfo} (hwf : FilesWF r) (thr : Nat) :
    TxOK (snapRetDB thr r).floor (snapRetDB thr r).replica ∧
    TxOK (snapRetCompactor thr r).floor (snapRetCompactor thr r).replica := by
  have key : ∀ fl, (fl = 0 ∨ ∃ q ∈ listLevel r snapshotLevel, fl = q.max) → TxOK fl (snapRetDB thr r).replica := by
    intro fl h
    rw [snapRetDB_replica]
    refine txOK_of_le_snapMax (r := r) ?_ fun S hS => newest_snapshot_kept _ _ hS
    rcases h with h | ⟨q, hq, h⟩
    · omega
    · rw [h]; exact le_snapMax hwf hq
  exact ⟨key _ (floorDB_spec _ _ none), snapRetCompactor_replica thr r ▸ key _ (floorCompactor_spec thr _)⟩

/-- The anchor is the `Covered` chain, which level-0 retention cannot touch; `l0Keep` only drops files
    ending at or below `maxL1`, hence below the anchor's end. -/
theorem l0Ret_safe {r : List FileInfo} (hc : Covered r) (en : Bool) (thr : Nat) :
    SafeDel r (l0Ret en thr r).replica := by
  rw [l0Ret_replica]
  split
  · exact ⟨fun f hf => hf, [], 0, .nil, fun f hf _ => hf⟩
  · obtain ⟨Q0, e, hQ0, hM⟩ := covered_iff.mp hc
    exact SafeDel.withLevel l0Keep_sub
      (hQ0.mono fun f hf => ⟨⟨mem_withLevel.mpr (Or.inl ⟨hf.1.1, hf.2⟩), hf.1.2⟩, hf.2⟩)
      fun f hf hlt => l0Keep_keep f hf (by omega)

theorem l0_survivors_suffix (thr m : Nat) : ∀ (L : List FileInfo), adjacent L = true →
    (∃ k, l0Keep thr m L = L.drop k) ∧ (l0Keep thr m L).getLast? = L.getLast? := by
  intro L hadj
  refine ⟨?_, l0Keep_last thr m L⟩
  fun_induction l0Keep thr m L with
  | case1 | case2 | case3 => exact ⟨0, rfl⟩
  | case4 f g rest _ _ ih =>  -- `f` dropped
    obtain ⟨k, hk⟩ := ih (adjacent_cons.mp hadj).2.2
    exact ⟨k + 1, hk⟩
  | case5 f g rest _ hm _ =>
    -- `f` is kept (`m < f.max`); by adjacency everything after it ends beyond `m` too and is kept
    rw [l0Keep_all thr m (g :: rest) fun x hx => by have := adjacent_lt hadj x hx; omega]
    exact ⟨0, rfl⟩

theorem l0_survivors_contiguous (thr m : Nat) (L : List FileInfo) (h : adjacent L = true) :
    adjacent (l0Keep thr m L) = true := by
  obtain ⟨⟨k, hk⟩, _⟩ := l0_survivors_suffix thr m L h
  rw [hk]; exact adjacent_drop k L h

/-- The two theorems above speak of `l0Keep`; this ties them to the operation. -/
theorem l0Ret_level0 {r : List FileInfo} {thr : Nat} {f : FileInfo} (hm : maxL1 r ≠ 0) :
    (f ∈ (l0Ret true thr r).replica ∧ f.level = 0) ↔ f ∈ l0Keep thr (maxL1 r) (listLevel r 0) := by
  rw [l0Ret_replica, if_neg (by simp [hm])]
  constructor
  · rintro ⟨h1, h2⟩
    rcases mem_withLevel.mp h1 with h | h
    · exact absurd h2 h.2
    · exact h
  · intro h
    exact ⟨mem_withLevel.mpr (Or.inr h), (mem_listLevel.mp (l0Keep_sub f h)).2⟩

theorem cascadeLevels_good {N fl} {ls : List Nat} {r : List FileInfo} (hl : ∀ l ∈ ls, l ≠ snapshotLevel)
    (hg : Good r N) (htx : TxOK fl r) : Good (cascadeLevels fl ls r).2 N := by
  induction ls generalizing r with
  | nil => exact hg
  | cons l ls ih =>
    have ⟨hl1, hl2⟩ := List.forall_mem_cons.mp hl
    exact ih hl2 (hg.del (txidRet_safe hg.wf l fl htx)) (txidRet_replica l fl r ▸ htx.withLevel hl1)

theorem cascade_good {r N} (hg : Good r N) (thr k : Nat) (hk : k < snapshotLevel) :
    Good (cascade thr k r).replica N ∧ Good (cascadeCompactor thr k r).replica N := by
  have hne : ∀ l ∈ levelsUpTo k, l ≠ snapshotLevel := fun l hl => by have := mem_levelsUpTo.mp hl; omega
  have hg1 := hg.del (snapRet_safe hg.wf thr)
  have hg2 : Good (snapRetCompactor thr r).replica N := snapRetCompactor_replica thr r ▸ hg1
  rw [cascade_replica, cascadeCompactor_replica]
  exact ⟨cascadeLevels_good hne hg1 (floor_ok hg.wf thr).1, cascadeLevels_good hne hg2 (floor_ok hg.wf thr).2⟩

/-- Side condition of an operation in state `r`: a raw `EnforceRetentionByTXID` needs an admissible
    floor; a cascade must stay below the snapshot level, since `TxOK` survives `txidRet` only at the
    other levels (`TxOK.withLevel`). -/
def OpOK : RetOp → List FileInfo → Prop
  | .txid _ tx, r => TxOK tx r
  | .cascade _ k, _ => k < snapshotLevel
  | .cascadeCompactor _ k, _ => k < snapshotLevel
  | _, _ => True

/-- Every retention operation leaves a latest plan that reaches the same `N`. -/
theorem retention_preserves_latest {r N} (hg : Good r N) (op : RetOp) (hok : OpOK op r) : Good (op.apply r) N := by
  cases op with
  | snapDB thr => exact hg.del (snapRet_safe hg.wf thr)
  | snapCompactor thr =>
    show Good (snapRetCompactor thr r).replica N
    rw [snapRetCompactor_replica]; exact hg.del (snapRet_safe hg.wf thr)
  | txid l tx => exact hg.del (txidRet_safe hg.wf l tx hok)
  | l0 thr => exact hg.del (l0Ret_safe hg.covered true thr)
  | cascade thr k => exact (cascade_good hg thr k hok).1
  | cascadeCompactor thr k => exact (cascade_good hg thr k hok).2

theorem retention_preserves_latest' {r N P} (hwf : FilesWF r) (hc : Covered r)
    (hP : planFiles r latest = .ok P) (hN : chainEnd 0 P = N) (op : RetOp) (hok : OpOK op r) :
    ∃ P', planFiles (op.apply r) latest = .ok P' ∧ chainEnd 0 P' = N :=
  (retention_preserves_latest ⟨hwf, hc, P, hP, hN⟩ op hok).latest

def applyAll : List RetOp → List FileInfo → List FileInfo
  | [], r => r
  | op :: ops, r => applyAll ops (op.apply r)

def SeqOK : List RetOp → List FileInfo → Prop
  | [], _ => True
  | op :: ops, r => OpOK op r ∧ SeqOK ops (op.apply r)

/-- Retention operations only; `retention_seq` below adds growth. -/
theorem retention_seq_partial {N} : ∀ (ops : List RetOp) (r : List FileInfo), Good r N → SeqOK ops r →
    Good (applyAll ops r) N := by
  intro ops
  induction ops with
  | nil => intro r hg _; exact hg
  | cons op ops ih => intro r hg hok; exact ih _ (retention_preserves_latest hg op hok.1) hok.2

/-- Side condition of adding a file `g` (what sync, compaction and snapshot produce).  `l1` mirrors
    `Compactor.Compact` starting at `prevMaxInfo.MaxTXID + 1` (compactor.go) over a gapless level 0.
    None of it is proved of the real code: the engine checks `addOKB` on every file that code adds. -/
structure AddOK (g : FileInfo) (r : List FileInfo) (N : Nat) : Prop where
  pos : 1 ≤ g.min ∧ g.min ≤ g.max
  lvl : g.level ≤ snapshotLevel
  snap : g.level = snapshotLevel → g.min = 1
  next : g.min ≤ N + 1
  l1 : g.level = 1 → g.min ≤ maxL1 r + 1

theorem good_add {r N g} (hg : Good r N) (ha : AddOK g r N) : Good (g :: r) (max N g.max) :=
  .of_reach (List.forall_mem_cons.mpr ⟨⟨ha.pos.1, ha.pos.2, ha.snap⟩, hg.wf⟩)
    (hg.covered.add ha.l1) (hg.reach.add ha.lvl ha.next)

/-- One step of a replica history: a retention operation, or the appearance of one
    new file (what `DB.Sync`+upload, `Compactor.Compact` and `DB.Snapshot` do to the listing). -/
inductive Step where
  | ret (op : RetOp)
  | add (g : FileInfo)

def Step.apply : Step → List FileInfo → List FileInfo
  | .ret op, r => op.apply r
  | .add g, r => g :: r

/-- Latest restorable TXID after the step. -/
def Step.reach : Step → Nat → Nat
  | .ret _, n => n
  | .add g, n => max n g.max

def StepOK : Step → List FileInfo → Nat → Prop
  | .ret op, r, _ => OpOK op r
  | .add g, r, n => AddOK g r n

def runSteps : List Step → List FileInfo → List FileInfo
  | [], r => r
  | s :: ss, r => runSteps ss (s.apply r)

def reachSteps : List Step → Nat → Nat
  | [], n => n
  | s :: ss, n => reachSteps ss (s.reach n)

def StepsOK : List Step → List FileInfo → Nat → Prop
  | [], _, _ => True
  | s :: ss, r, n => StepOK s r n ∧ StepsOK ss (s.apply r) (s.reach n)

theorem step_good {r N} (hg : Good r N) (s : Step) (hok : StepOK s r N) : Good (s.apply r) (s.reach N) := by
  cases s with
  | ret op => exact retention_preserves_latest hg op hok
  | add g => exact good_add hg hok

/-- After any sequence of syncs, compactions, snapshots (each adding a file that satisfies `AddOK`)
    and retention passes, the latest TXID — the highest ever added — is restorable. -/
theorem retention_seq {N} : ∀ (ss : List Step) (r : List FileInfo), Good r N → StepsOK ss r N →
    Good (runSteps ss r) (reachSteps ss N) := by
  intro ss
  induction ss generalizing N with
  | nil => intro r hg _; exact hg
  | cons s ss ih => intro r hg hok; exact ih _ (step_good hg s hok.1) hok.2

/-- With `RetentionEnabled = false` the remote replica is untouched by any retention call. -/
theorem retention_disabled_remote (op : List FileInfo → RetOut) (s : Rep) : (s.retain false op).remote = s.remote := rfl

theorem cascade_disabled_remote (thr k : Nat) (s : Rep) : (s.cascade false thr k).remote = s.remote := rfl

theorem addOK_of_check {g r n} (h : addOKB g r n = true) : AddOK g r n := by
  have h : ((((1 ≤ g.min ∧ g.min ≤ g.max) ∧ g.level ≤ snapshotLevel) ∧ (g.level ≠ snapshotLevel ∨ g.min = 1)) ∧
      g.min ≤ n + 1) ∧ (g.level ≠ 1 ∨ g.min ≤ maxL1 r + 1) := by simpa [addOKB] using h
  obtain ⟨⟨⟨⟨h12, h3⟩, h4⟩, h5⟩, h6⟩ := h
  exact ⟨h12, h3, fun hl => h4.resolve_left fun h => h hl, h5, fun hl => h6.resolve_left fun h => h hl⟩

/-- `coveredB` is what the engine evaluates on every real listing. -/
theorem covered_of_check {r : List FileInfo} (hwf : FilesWF r) (h : coveredB r = true) : Covered r := by
  by_cases hm : maxL1 r = 0
  · exact covered_iff.mpr ⟨[], 0, .nil, Nat.le_of_eq hm⟩
  unfold coveredB at h
  simp only [Bool.or_eq_true, beq_iff_eq, decide_eq_true_eq, hm, false_or] at h
  rcases h with h | h
  · obtain ⟨Q0, hQ0⟩ := snap_anchor (r' := r) hwf fun S hS => (mem_listLevel.mp (List.mem_of_getLast? hS)).1
    exact covered_iff.mpr ⟨Q0, _, hQ0, h⟩
  · cases hp : planFiles (nonL0 r) ⟨maxL1 r, none⟩ with
    | error e => rw [hp] at h; cases h
    | ok P =>
      have hv := (C08.plan_sound (listLevel_wf (filesWF_sub hwf fun f hf => (mem_nonL0.mp hf).1)) hp).1
      exact covered_iff.mpr ⟨P, _, hv.vis.mono fun f hf => ⟨⟨(mem_nonL0.mp hf.1).1, hf.2⟩, (mem_nonL0.mp hf.1).2⟩,
        Nat.le_of_eq (hv.target hm).symm⟩

/-- A litestream-shaped replica: two snapshots, L1 and L2 partially pruned, L0 run to TXID 8. -/
def exR : List FileInfo :=
  [⟨9, 1, 3, 10⟩, ⟨9, 1, 6, 60⟩, ⟨2, 1, 4, 40⟩, ⟨1, 3, 4, 40⟩, ⟨1, 5, 7, 70⟩,
   ⟨0, 4, 4, 40⟩, ⟨0, 5, 5, 50⟩, ⟨0, 6, 6, 60⟩, ⟨0, 7, 7, 70⟩, ⟨0, 8, 8, 80⟩]

example : filesWFB exR = true := by decide
example : coveredB exR = true := by decide
example : planFiles exR latest = .ok [⟨9, 1, 6, 60⟩, ⟨1, 5, 7, 70⟩, ⟨0, 8, 8, 80⟩] := by decide

theorem exR_good : Good exR 8 :=
  have hwf : FilesWF exR := filesWF_of_check (by decide)
  ⟨hwf, covered_of_check hwf (by decide), [⟨9, 1, 6, 60⟩, ⟨1, 5, 7, 70⟩, ⟨0, 8, 8, 80⟩], by decide, by decide⟩

/-- The theorem's conclusion computed on the example: cascade with every file old, then L0 retention. -/
example : (planFiles (applyAll [.cascade 1000 3, .l0 1000] exR) latest).map (chainEnd 0) = .ok 8 := by decide
example : SeqOK [.cascade 1000 3, .l0 1000] exR := ⟨by show 3 < snapshotLevel; decide, trivial, trivial⟩
example : sortFiles (applyAll [.cascade 1000 3, .l0 1000] exR) =
    [⟨0, 8, 8, 80⟩, ⟨1, 3, 4, 40⟩, ⟨1, 5, 7, 70⟩, ⟨2, 1, 4, 40⟩, ⟨9, 1, 6, 60⟩] := by decide

/-- A history mixing growth and retention: sync 9, compact 8..9 into L1, snapshot at 9, cascade, L0 retention. -/
example : StepsOK [.add ⟨0, 9, 9, 90⟩, .add ⟨1, 8, 9, 90⟩, .add ⟨9, 1, 9, 95⟩, .ret (.cascade 1000 3), .ret (.l0 1000)] exR 8 := by
  refine ⟨addOK_of_check (by decide), addOK_of_check (by decide), addOK_of_check (by decide), ?_, trivial, trivial⟩
  show 3 < snapshotLevel; decide
example : (planFiles (runSteps [.add ⟨0, 9, 9, 90⟩, .add ⟨1, 8, 9, 90⟩, .add ⟨9, 1, 9, 95⟩, .ret (.cascade 1000 3), .ret (.l0 1000)] exR)
    latest).map (chainEnd 0) = .ok 9 := by decide

/-- Safeguard "only if covered by L1": were L0 files deleted regardless of `maxL1TXID`
    (here: `maxL1 := 100`), the latest state would be lost on this replica. -/
example : isOk (planFiles (withLevel exR 0 (l0Keep 1000 100 (listLevel exR 0))) ⟨8, none⟩) = true ∧
    (planFiles (withLevel [⟨9, 1, 2, 10⟩, ⟨0, 3, 3, 30⟩, ⟨0, 4, 4, 40⟩] 0
      (l0Keep 1000 100 (listLevel [⟨9, 1, 2, 10⟩, ⟨0, 3, 3, 30⟩, ⟨0, 4, 4, 40⟩] 0))) latest) = .error .nonContiguous := by
  decide

/-- Safeguard "floor bounded by a snapshot" (`TxOK`): `EnforceRetentionByTXID` with a floor above
    every snapshot loses the latest state. -/
example : planFiles (txidRet 0 5 [⟨9, 1, 2, 10⟩, ⟨0, 3, 3, 30⟩, ⟨0, 4, 4, 40⟩, ⟨0, 5, 5, 50⟩]).replica latest = .error .nonContiguous := by
  decide

/-- Safeguard "stop at the first recent file": skipping a recent file and deleting an older
    one behind it would leave a hole in level 0 (the model never does: survivors are a suffix). -/
example : l0Keep 50 7 (listLevel exR 0) = [⟨0, 6, 6, 60⟩, ⟨0, 7, 7, 70⟩, ⟨0, 8, 8, 80⟩] := by decide

/-- Outside `Covered` (L1 claims TXID 7 but nothing below level 0 leads there) level-0
    retention does lose the latest state — the hypothesis is not padding. -/
example : coveredB [⟨1, 3, 7, 10⟩, ⟨0, 1, 1, 10⟩, ⟨0, 2, 2, 10⟩, ⟨0, 3, 3, 10⟩, ⟨0, 8, 8, 10⟩] = false ∧
    isOk (planFiles [⟨1, 3, 7, 10⟩, ⟨0, 1, 1, 10⟩, ⟨0, 2, 2, 10⟩, ⟨0, 3, 3, 10⟩, ⟨0, 8, 8, 10⟩] latest) = true ∧
    isOk (planFiles (l0Ret true 100 [⟨1, 3, 7, 10⟩, ⟨0, 1, 1, 10⟩, ⟨0, 2, 2, 10⟩, ⟨0, 3, 3, 10⟩, ⟨0, 8, 8, 10⟩]).replica latest) = false := by
  decide

end C07
end Litestream
