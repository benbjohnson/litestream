import Litestream.Model.CkptProtocol
import Litestream.Gen.CkptProtocol
/-!
# C01 / C02 / C12 — the checkpoint protocol loses no committed frame

`Cp` models `DB.checkpointWithExecutor` step by step against an application that
may commit between any two steps (whenever litestream does not hold the write
lock), with an environment-chosen backfill limit for the checkpoint.  Proved for
every mode and every schedule of any length:

* no committed frame ever leaves the WAL uncopied without a snapshot covering it (`lost = false`);
* the database file never runs ahead of the replicated position (`backfilled ≤ copied`), which is
  what makes a snapshot at an advertised position contain only pages up to that position.

The step order the theorems rest on is re-derived from db.go on every run
(`Gen.CkptProtocol.steps`) and compared with the expected protocol.
-/
namespace Litestream
namespace C01
open Cp

/-- The invariant between checkpoint calls. -/
def J (w : W) : Prop := w.lost = false ∧ w.backfilled ≤ w.copied ∧ w.copied ≤ w.frames

/-- Between a non-PASSIVE checkpoint and the branch on its outcome (`ckF ≤ ckC`: it saw no frame that was not copied). -/
def N (m : Mode) (w : W) : Prop :=
  w.backfilled ≤ w.frames ∧ (m ≠ .truncate → w.ckF ≤ w.ckC → J w) ∧ (w.restarted = false → w.lost = false)

/-- The write lock is recorded only where the proof needs it: at `p3`, whose `copied = frames` a commit would
    break, and at `p2` to hand it on. Every other row is kept by an application commit as it stands. `pinned` occurs
    in no row: it only removes restarts, and the rows hold with them. -/
def Inv (m : Mode) : PC → W → Prop
  | .p2, w => J w ∧ w.lsLock = true
  | .p3, w => J w ∧ w.lsLock = true ∧ w.copied = w.frames
  | .n2, w | .n3, w => N m w
  | .n4, w | .n5, w => w.backfilled ≤ w.frames
  | _, w => J w

theorem J.backfilled_le {w : W} (h : J w) : w.backfilled ≤ w.frames := Nat.le_trans h.2.1 h.2.2

theorem write_cases (n : Nat) (w : W) :
    (w.backfilled = w.frames ∧
      write n w = { w with frames := n, copied := 0, backfilled := 0, restarted := true,
                           lost := w.lost || decide (w.copied < w.frames) }) ∨
    write n w = { w with frames := w.frames + n } := by
  unfold write; split
  · exact .inl ⟨‹_ ∧ _›.1, rfl⟩
  · exact .inr rfl

theorem write_backfilled_le (n : Nat) {w : W} (h : w.backfilled ≤ w.frames) : (write n w).backfilled ≤ (write n w).frames := by
  rcases write_cases n w with ⟨-, e⟩ | e <;> rw [e]
  · exact Nat.zero_le _
  · exact Nat.le_trans h (Nat.le_add_right _ _)

theorem J_write (n : Nat) {w : W} (h : J w) : J (write n w) := by
  obtain ⟨h1, h2, h3⟩ := h
  rcases write_cases n w with ⟨hb, e⟩ | e <;> rw [e]
  · -- a restart loses nothing: everything is backfilled, hence copied
    have : ¬ (w.copied < w.frames) := by omega
    exact ⟨by simp [h1, this], Nat.le_refl _, Nat.zero_le _⟩
  · exact ⟨h1, h2, Nat.le_trans h3 (Nat.le_add_right _ _)⟩

theorem N_write (m : Mode) (n : Nat) {w : W} (h : N m w) : N m (write n w) := by
  obtain ⟨h1, h2, h3⟩ := h
  have hB := write_backfilled_le n h1
  have hJ : m ≠ .truncate → w.ckF ≤ w.ckC → J (write n w) := fun hm hle => J_write n (h2 hm hle)
  rcases write_cases n w with ⟨-, e⟩ | e <;> rw [e] at hB hJ ⊢
  · exact ⟨hB, hJ, fun h => nomatch h⟩
  · exact ⟨hB, hJ, h3⟩

theorem J_copy {w : W} (h : J w) : J (copy w) := ⟨h.1, h.backfilled_le, Nat.le_refl _⟩

theorem J_snapshot {w : W} (h : w.backfilled ≤ w.frames) : J (snapshot w) := ⟨rfl, h, Nat.le_refl _⟩

theorem ckpt_backfilled_le (m : Mode) (k : Nat) {w : W} (h : w.backfilled ≤ w.frames) :
    (ckpt m k w).backfilled ≤ (ckpt m k w).frames := by
  cases m <;> simp only [ckpt] <;> omega

theorem J_ckpt {m : Mode} (hm : m ≠ .truncate) (k : Nat) {w : W} (h : J w) (hc : w.frames ≤ w.copied) :
    J (ckpt m k w) := by
  cases m
  case truncate => exact absurd rfl hm
  all_goals exact ⟨h.1, Nat.max_le.mpr ⟨h.2.1, Nat.le_trans (Nat.min_le_right k _) hc⟩, h.2.2⟩

theorem N_ckpt (m : Mode) (k : Nat) {w : W} (h : J w) : N m (ckpt m k w) := by
  cases m
  case truncate => exact ⟨Nat.le_refl _, fun hne => absurd rfl hne, fun h => nomatch h⟩
  -- `ckpt` records `ckF := frames` and `ckC := copied`, so the premise `ckF ≤ ckC` is `J_ckpt`'s `frames ≤ copied`
  all_goals exact ⟨ckpt_backfilled_le _ k h.backfilled_le, fun hm => J_ckpt hm k h, fun _ => h.1⟩

theorem inv_app (m : Mode) (pc : PC) (w : W) (n : Nat) (h : Inv m pc w) (hl : w.lsLock = false) :
    Inv m pc (write (n + 1) w) := by
  cases pc <;> simp only [Inv] at h ⊢
  -- under the barrier the application cannot commit
  case p2 => exact absurd (hl ▸ h.2) Bool.false_ne_true
  case p3 => exact absurd (hl ▸ h.2.1) Bool.false_ne_true
  case n2 | n3 => exact N_write m _ h
  case n4 | n5 => exact write_backfilled_le _ h
  all_goals exact J_write _ h

theorem inv_ls (m : Mode) (pc : PC) (w : W) (k : Nat) (h : Inv m pc w) :
    Inv m (lsStep m k pc w).1 (lsStep m k pc w).2 := by
  cases pc <;> simp only [Inv] at h
  case p0 | n0 => exact J_copy (w := { w with restarted := false }) h
  case p1 => exact ⟨h, rfl⟩
  case p2 => exact ⟨J_copy h.1, h.2, rfl⟩
  -- under the barrier everything is copied
  case p3 => exact J_ckpt (by decide) k h.1 (Nat.le_of_eq h.2.2.symm)
  case p5 => exact J_write 1 h
  case p6 =>
    simp only [lsStep]
    split
    · exact J_copy h
    · exact h
  case n1 => exact N_ckpt m k h
  case n2 => exact N_write m 1 h
  case n3 =>
    obtain ⟨h1, h2, h3⟩ := h
    simp only [lsStep]
    split
    · -- header unchanged: nothing was lost, and the copy brings `copied` up to `frames`
      exact ⟨h3 (by simpa using ‹(!w.restarted) = true›), h1, Nat.le_refl _⟩
    · split
      · -- restarted, but the checkpoint saw no uncopied frame: `J` held all along
        exact J_copy (h2 ‹_ ∧ _›.1 ‹_ ∧ _›.2)
      · -- on to the boundary snapshot
        exact h1
  case n5 => exact J_snapshot h
  case p4 | n4 | n6 | done => exact h

theorem inv_stepEv (m : Mode) (pc : PC) (w : W) (ev : Ev) (h : Inv m pc w) :
    Inv m (stepEv m (pc, w) ev).1 (stepEv m (pc, w) ev).2 := by
  cases ev with
  | ls k => exact inv_ls m pc w k h
  | app n =>
    simp only [stepEv]
    split
    · exact h
    · exact inv_app m pc w n h ((Bool.not_eq_true _).mp ‹_›)

theorem inv_reach (m : Mode) (w0 : W) (h0 : J w0) (evs : List Ev) :
    Inv m (run m (start m, w0) evs).1 (run m (start m, w0) evs).2 :=
  List.foldlRecOn evs (stepEv m) (motive := fun s => Inv m s.1 s.2) (by cases m <;> exact h0)
    fun s hs e _ => inv_stepEv m s.1 s.2 e hs

/-- Program points at which an error exit leaves the flag raised (non-PASSIVE, checkpoint issued, follow-up incomplete). -/
def midNonPassive : PC → Bool
  | .n2 | .n3 | .n4 | .n5 => true
  | _ => false

/-- What `Inv` says at every program counter. -/
theorem run_safe (m : Mode) (w0 : W) (h0 : J w0) (evs : List Ev) :
    let s := run m (start m, w0) evs
    s.2.backfilled ≤ s.2.frames ∧ (midNonPassive s.1 = false → J s.2) := by
  intro s
  have hi : Inv m s.1 s.2 := inv_reach m w0 h0 evs
  cases hpc : s.1 <;> rw [hpc] at hi
  case n2 | n3 => exact ⟨hi.1, fun h => nomatch h⟩
  case n4 | n5 => exact ⟨hi, fun h => nomatch h⟩
  case p2 | p3 => exact ⟨hi.1.backfilled_le, fun _ => hi.1⟩
  all_goals exact ⟨hi.backfilled_le, fun _ => hi⟩

/-- C01 / C02 / C12, for the runs in which `checkpointWithExecutor` returns (`.done`). -/
theorem checkpoint_protocol_safe (m : Mode) (w0 : W) (h0 : J w0) (hl : w0.lsLock = false) (evs : List Ev)
    (hdone : (run m (start m, w0) evs).1 = .done) :
    (run m (start m, w0) evs).2.lost = false ∧
    (run m (start m, w0) evs).2.backfilled ≤ (run m (start m, w0) evs).2.copied := by
  -- (`hl` is not used, here and in the two statements about error exits: the lock matters only at `p2` and `p3`,
  -- where litestream has just taken it)
  have := (run_safe m w0 h0 evs).2 (by rw [hdone]; rfl)
  exact ⟨this.1, this.2.1⟩

/-- Five frames, all copied, none backfilled, the WAL pinned by litestream's read transaction. -/
def w5 : W := ⟨5, 5, 0, true, false, false, false, 0, 0⟩

/-- Before repair 94e7330: FULL checkpoint, an application commit between the copy and the
    checkpoint, partial restart-free outcome: the database file ends up ahead of the replicated position. -/
theorem full_checkpoint_old_code_runs_ahead :
    let r := runWith lsStepBeforeFix .full (.n0, w5) [.ls 0, .app 0, .app 0, .ls 6, .ls 0, .ls 0]
    r.1 = .done ∧ r.2.copied < r.2.backfilled := by decide

/-- The same schedule under the repaired protocol. -/
example : let r := run .full (.n0, w5) [.ls 0, .app 0, .app 0, .ls 6, .ls 0, .ls 0]
    r.1 = .done ∧ r.2.backfilled ≤ r.2.copied ∧ r.2.lost = false := by decide

/-- Skipping the seal under the PASSIVE barrier loses the transaction committed between the first
    copy and the barrier. -/
theorem passive_without_seal_loses :
    let r := runWith lsStepNoSeal .passive (.p0, w5) [.ls 0, .app 0, .ls 0, .ls 0, .ls 9, .ls 0, .ls 0, .ls 0]
    r.1 = .done ∧ r.2.lost = true := by decide

/-! ### Error exits (repair 98a2369): the database file may run ahead only while `checkpointUnresolved` is raised

`checkpoint_protocol_safe` speaks about runs that reach `.done`.  `checkpointWithExecutor` can
also return with an error at any step (typically the sequence bump hitting SQLITE_BUSY).  At the
program points between a non-PASSIVE checkpoint and the copy / boundary snapshot that follows it
(`n2 … n5`) the invariant `J` does not hold: the checkpoint may have backfilled frames that were
never copied.  The repaired code raises `checkpointUnresolved` on every error exit once a
non-PASSIVE checkpoint has been issued (a superset of these points), refuses snapshots while it is
raised, and the next verify demands a snapshot sync. -/

/-- At every point at which `checkpointWithExecutor` might return with an error: either `J` holds there (snapshots at
    the position are consistent), or the exit is one that raises `checkpointUnresolved`. -/
theorem error_exit_safe (m : Mode) (w0 : W) (h0 : J w0) (hl : w0.lsLock = false) (evs : List Ev) :
    let s := run m (start m, w0) evs
    midNonPassive s.1 = true ∨ J s.2 := by
  intro s
  cases h : midNonPassive s.1 with
  | true => exact .inl rfl
  | false => exact .inr ((run_safe m w0 h0 evs).2 h)

/-- The snapshot sync that the raised flag forces re-establishes the invariant, whatever was backfilled or lost in
    between. -/
theorem unresolved_snapshot_restores_J (m : Mode) (w0 : W) (h0 : J w0) (hl : w0.lsLock = false) (evs : List Ev)
    (hmid : midNonPassive (run m (start m, w0) evs).1 = true) :
    J (snapshot (run m (start m, w0) evs).2) :=
  -- (`hmid` is not used: `J_snapshot` asks only for `backfilled ≤ frames`, which holds at every point)
  J_snapshot (run_safe m w0 h0 evs).1

/-- Witness that the points are real: FULL checkpoint, a commit between the copy and the checkpoint,
    error exit right after the checkpoint — the database file is ahead of the replicated position. -/
theorem error_exit_after_checkpoint_runs_ahead :
    let r := run .full (.n0, w5) [.ls 0, .app 0, .ls 6]
    midNonPassive r.1 = true ∧ r.2.copied < r.2.backfilled := by decide

/-- (T) the error-exit hook: guarded by "not PASSIVE", armed before `execCheckpoint` is called (so every
    error exit from the checkpoint on — a superset of `midNonPassive` — raises the flag), and it raises
    the flag exactly when the function returns an error. -/
theorem gen_unresolved_defer :
    Gen.CkptProtocol.unresolvedDefer =
      ("mode != CheckpointModePassive", "armed before execCheckpoint", "{ if err != nil { exec.state.checkpointUnresolved = true } }") := rfl

/-! ### (T) the step order in db.go is the modelled protocol -/

/-- The protocol-relevant calls of `checkpointWithExecutor`, in source order, with their guards. In the
    model's program counters: the first `copy` is `p0`/`n0`; `begin` + lock insert `p1`; the `copy` under
    the barrier `p2`; `checkpoint` `p3`/`n1`; `rollback(barrierTx)` `p4`; `bump` `p5`/`n2`; the PASSIVE
    `copy` after it `p6`; the other two guarded copies are the two early exits of `n3`; `begin` + lock
    insert `n4`; `snapshotSync` `n5`; `rollback(tx)` `n6`. -/
def expectedSteps : List (String × String × String) := [
  ("body", "chkTryLock(db.chkMu)", ""),
  ("defer", "chkUnlock(db.chkMu)", ""),
  ("body", "readHeader", ""),
  ("body", "copy(ctx,true,exec,0)", ""),
  ("body", "begin(db.db)", "mode == CheckpointModePassive"),
  ("defer", "rollback(barrierTx)", "mode == CheckpointModePassive"),
  ("defer", "rollback(barrierTx)", "mode == CheckpointModePassive && barrierTx != nil"),
  ("body", "exec(barrierTx: `INSERT INTO _litestream_lock (id) VALUES (1);`)", "mode == CheckpointModePassive"),
  ("body", "copy(ctx,true,exec,0)", "mode == CheckpointModePassive"),
  ("body", "checkpoint(ctx,mode)", ""),
  ("body", "rollback(barrierTx)", "barrierTx != nil"),
  ("body", "bump", ""),
  ("body", "readHeader", ""),
  ("body", "copy(ctx,true,exec,0)", "!(err != nil) && bytes.Equal(hdr, other) && mode != CheckpointModePassive"),
  ("body", "copy(ctx,true,exec,0)", "mode == CheckpointModePassive"),
  ("body", "copy(ctx,true,exec,0)", "mode != CheckpointModeTruncate && walFrameN <= preCheckpointFrameN"),
  ("body", "begin(db.db)", ""),
  ("defer", "rollback(tx)", ""),
  ("defer", "rollback(tx)", ""),
  ("body", "exec(tx: `INSERT INTO _litestream_lock (id) VALUES (1);`)", ""),
  ("body", "snapshotSync(ctx,true,exec,snapshotInfo,0)", ""),
  ("body", "rollback(tx)", "")]

theorem gen_checkpoint_steps_eq :
    Gen.CkptProtocol.steps.filter (fun s => s.2.1 ≠ "return") = expectedSteps := by rfl

/-! ### (T) the frame arithmetic that detects a commit racing a RESTART / FULL checkpoint

RESTART and FULL have no write barrier; a commit between the copy before the checkpoint and the
checkpoint is noticed only because the checkpoint reports more WAL frames than were replicated
(`walFrameN > preCheckpointFrameN`), which triggers the boundary snapshot the model's `.snapshot`
step stands for.  The two expressions are translated from db.go on every run. -/

theorem gen_preCheckpointFrameN_exact (ps n : Nat) :
    Gen.CkptProtocol.preCheckpointFrameN ps (32 + n * (ps + 24)) = n := by
  unfold Gen.CkptProtocol.preCheckpointFrameN Gen.CkptProtocol.frameSize
  rcases Nat.eq_zero_or_pos n with rfl | hn
  · simp
  · have hpos : 0 < n * (ps + 24) := Nat.mul_pos hn (by omega)
    rw [if_pos (by omega), Nat.add_sub_cancel_left, Nat.mul_div_cancel n (by omega)]

theorem gen_racing_commit_detected (ps n k : Nat) (hk : 0 < k) :
    ¬ (n + k ≤ Gen.CkptProtocol.preCheckpointFrameN ps (32 + n * (ps + 24))) := by
  rw [gen_preCheckpointFrameN_exact]; omega

theorem gen_no_race_passes (ps n m : Nat) (hm : m ≤ n) :
    m ≤ Gen.CkptProtocol.preCheckpointFrameN ps (32 + n * (ps + 24)) := by
  rw [gen_preCheckpointFrameN_exact]; exact hm

end C01
end Litestream
