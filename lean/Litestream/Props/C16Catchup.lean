import Litestream.Props.C16
import Litestream.Props.C06
/-!
C16 — discharging the `CatchUp` hypothesis of `follow_step_sound` on the concrete logical LTX
model (Model/Ltx.lean, owned by C06).

The follower is re-stated over that model, with `l0` the chain of level-0 files litestream wrote
(TXID `i+1` = `l0[i]`).  WHICH files a poll applies is the very same executable function
`Follow.pollPlan` the driver runs and the engine compares with the real `applyNewLTXFiles`.  A replica
is well-formed when every file is either the level-0 file of its TXID or `ltx.Compactor`'s output on
its level-0 run — what C06's engine checks on every real file — and the level-0 chain is
growth-complete with encoder-conformant pages — what `Sy.Inv` (Lemmas/SyncStep.lean,
`C01.chain_equals_source`) proves for every chain litestream writes.
-/
namespace Litestream.C16
open Litestream Litestream.Follow

structure LFile where
  info : FileInfo
  ltx : Ltx

abbrev LReplica := List LFile

def linfos (r : LReplica) : List FileInfo := r.map (·.info)

/-- `OpenLTXFile(level,min,max)`. -/
def lcontent (r : LReplica) (fi : FileInfo) : Option Ltx :=
  (r.find? (fun rf => rf.info.level == fi.level && rf.info.min == fi.min && rf.info.max == fi.max)).map (·.ltx)

def lbodies (r : LReplica) (plan : List FileInfo) : List Ltx := plan.filterMap (lcontent r)

def ltruth (l0 : List Ltx) (c : Nat) : Db := applyAll Db.empty (l0.take c)

structure LFol where
  db : Db
  txid : Nat

/-- One tick of `follow` over the LTX model. -/
def lpoll (r : LReplica) (fol : LFol) : LFol :=
  let plan := pollPlan (linfos r) fol.txid
  ⟨applyAll fol.db (lbodies r plan), chainEnd fol.txid plan⟩

def Faithful (lock : Nat) (l0 : List Ltx) (rf : LFile) : Prop :=
  ∃ pre seg post, l0 = pre ++ seg ++ post ∧ pre.length + 1 = rf.info.min ∧
    pre.length + seg.length = rf.info.max ∧ (seg = [rf.ltx] ∨ compact lock seg = .ok rf.ltx)

structure LReplicaWF (lock : Nat) (l0 : List Ltx) (r : LReplica) : Prop where
  pagesOk : ∀ x ∈ l0, PagesOk lock x
  growth : GrowthComplete lock l0
  faithful : ∀ rf ∈ r, Faithful lock l0 rf

/-- `CatchUp` stated for the concrete model (`Db.Same` = same size, same page everywhere). -/
def LCatchUp (l0 : List Ltx) (r : LReplica) : Prop :=
  ∀ rf ∈ r, ∀ c, rf.info.min ≤ c + 1 → c < rf.info.max →
    ((ltruth l0 c).apply rf.ltx).Same (ltruth l0 rf.info.max)

theorem ltruth_take_left (a b : List Ltx) : ltruth (a ++ b) a.length = applyAll Db.empty a := by
  unfold ltruth
  rw [List.take_left' rfl]

theorem catchUp_of_ltx_model {lock : Nat} {l0 : List Ltx} {r : LReplica} (h : LReplicaWF lock l0 r) :
    LCatchUp l0 r := by
  intro rf hrf c hmin hmax
  obtain ⟨pre, seg, post, rfl, hpre, hseg, hkind⟩ := h.faithful rf hrf
  rw [← hseg, ← List.length_append, ltruth_take_left (pre ++ seg) post]
  rcases hkind with rfl | hcomp
  · -- the level-0 file of its TXID: nothing of it is applied yet, applying it is the definition
    obtain rfl : c = pre.length := by
      simp only [List.length_singleton] at hseg
      omega
    rw [List.append_assoc, ltruth_take_left pre, applyAll_append]
    exact Db.Same.refl _
  · -- split the run at what is already applied: the two states are those of `C06.catchup`
    obtain ⟨s1, s2, rfl, rfl⟩ : ∃ s1 s2, seg = s1 ++ s2 ∧ c = (pre ++ s1).length :=
      ⟨seg.take (c - pre.length), seg.drop (c - pre.length), (List.take_append_drop ..).symm, by
        rw [List.length_append, List.length_take]; omega⟩
    rw [← List.append_assoc pre] at h ⊢
    rw [List.append_assoc (pre ++ s1), ltruth_take_left (pre ++ s1)]
    exact C06.catchup hcomp (fun x hx => h.pagesOk x (List.mem_append_left _ hx)) (growthComplete_append h.growth).1

theorem lcatchesUp {lock : Nat} {l0 : List Ltx} {r : LReplica} (h : LReplicaWF lock l0 r) :
    CatchesUp LFile.info LFile.ltx Db.apply (fun d c => d.Same (ltruth l0 c)) r :=
  fun rf hrf c _ h1 h2 hd => (apply_congr hd rf.ltx).trans (catchUp_of_ltx_model h rf hrf c h1 h2)

/-- `follow_step_sound` with L-catchup discharged: no hypothesis about file contents beyond the
    well-formedness of the replica over the concrete LTX model. -/
theorem follow_step_sound_ltx {lock : Nat} {l0 : List Ltx} {r : LReplica} (h : LReplicaWF lock l0 r)
    (fol : LFol) (hf : fol.db.Same (ltruth l0 fol.txid)) :
    (lpoll r fol).txid ≥ fol.txid ∧ (lpoll r fol).db.Same (ltruth l0 (lpoll r fol).txid) := by
  -- `lcontent r` unfolds to `lookup LFile.info LFile.ltx r`
  show _ ∧ (applyAll fol.db _).Same _
  rw [applyAll_eq_foldl]
  exact poll_chain (lcatchesUp h) fol.txid fol.db hf

def lpollN (r : LReplica) : Nat → LFol → LFol
  | 0, fol => fol
  | n+1, fol => lpollN r n (lpoll r fol)

/-- Convergence over the LTX model (same progress hypothesis as `follow_converges_partial`). -/
theorem follow_converges_ltx_partial {lock : Nat} {l0 : List Ltx} {r : LReplica} (h : LReplicaWF lock l0 r)
    (hprog : ∀ c, c < maxInfoTx (linfos r) → c < pollTxid (linfos r) c) :
    ∀ (k : Nat) (fol : LFol), fol.db.Same (ltruth l0 fol.txid) → fol.txid ≤ maxInfoTx (linfos r) →
      maxInfoTx (linfos r) - fol.txid ≤ k →
      ∃ n, (lpollN r n fol).txid = maxInfoTx (linfos r) ∧
        (lpollN r n fol).db.Same (ltruth l0 (maxInfoTx (linfos r))) := by
  intro _ fol hf hle _
  obtain ⟨n, h1, h2⟩ := iterate_reaches (iter := lpollN r) (fun _ => rfl) (fun _ _ => rfl) (·.txid)
    (fun fol => fol.db.Same (ltruth l0 fol.txid)) (maxInfoTx (linfos r))
    (fun fol hf hlt => ⟨(follow_step_sound_ltx h fol hf).2, hprog _ hlt, pollTxid_le_max _ _ (Nat.le_of_lt hlt)⟩)
    fol hf hle
  exact ⟨n, h1, h1 ▸ h2⟩

/-! A level-0 chain of two growth-complete transactions, the two level-0 files and
    their level-1 compaction form a well-formed replica, and a poll from the empty follower reaches
    TXID 2. -/
def exL0 : List Ltx := [⟨1, 1, 2, 10, [(1, 11), (2, 12)]⟩, ⟨2, 2, 3, 20, [(1, 21), (3, 23)]⟩]
def exLR : LReplica :=
  [⟨⟨0, 1, 1, 0⟩, exL0[0]!⟩, ⟨⟨0, 2, 2, 0⟩, exL0[1]!⟩, ⟨⟨1, 1, 2, 0⟩, ⟨1, 2, 3, 20, [(1, 21), (2, 12), (3, 23)]⟩⟩]

example : (lpoll exLR ⟨Db.empty, 0⟩).txid = 2 := by decide

-- 262145 = `lockPgno 4096` = 0x40000000 / 4096 + 1
example : LReplicaWF 262145 exL0 exLR where
  pagesOk := fun x hx => pagesOk_of_wf ((by decide : ∀ x ∈ exL0, x.wf 262145 = true) x hx)
  growth := by
    show growthLink 262145 _ _ ∧ True
    refine ⟨?_, trivial⟩
    intro p h1 h2 _
    have : p = 3 := by simp at h1 h2; omega
    subst this; decide
  faithful := by
    intro rf hrf
    simp [exLR] at hrf
    rcases hrf with rfl | rfl | rfl
    · exact ⟨[], [exL0[0]!], [exL0[1]!], by decide, by decide, by decide, Or.inl rfl⟩
    · exact ⟨[exL0[0]!], [exL0[1]!], [], by decide, by decide, by decide, Or.inl rfl⟩
    · exact ⟨[], exL0, [], by decide, by decide, by decide, Or.inr (by decide)⟩

end Litestream.C16
