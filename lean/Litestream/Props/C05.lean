import Litestream.Lemmas.ReplicaSync
import Litestream.Props.C08
import Litestream.Gen.L0Guard
/-!
# C05 — Transient storage failures never leave gaps or false acknowledgements

The theorems are about `ReplicaSync.syncOnce` / `sync` / `syncAndWaitAck` (model of `Replica.syncOnce`,
`Replica.sync`, `DB.SyncAndWait`; Model/ReplicaSync.lean) for **every** fault assignment
`φ : call index → {ok, failBefore, failAfter}`.
The remote is the set of level-0 TXIDs; `RInv` is what the code really guarantees between calls.
-/
namespace Litestream
namespace C05
open ReplicaSync

theorem rinv_step (φ : Assign) (m : Nat) (r : R) (h : RInv r) : RInv (syncOnce φ m r).1 :=
  (syncOnce_post φ m r h).inv

/-- No gap in the remote level-0 sequence.  A run cut after any client call is the run of the assignment
    that fails that call, so this covers the state after every call, not only at return. -/
theorem no_gap (φ : Assign) (m : Nat) (r : R) (h : RInv r) :
    ∀ t, (syncOnce φ m r).1.lo ≤ t → t ≤ maxOf (syncOnce φ m r).1.remote → t ∈ (syncOnce φ m r).1.remote :=
  (rinv_step φ m r h).contig.2

theorem syncOnce_spec (φ : Assign) (m : Nat) (r : R) (h : RInv r) :
    ((syncOnce φ m r).2 = .ok → (syncOnce φ m r).1.dbPos ≤ maxOf (syncOnce φ m r).1.remote
        ∧ (syncOnce φ m r).1.pos = maxOf (syncOnce φ m r).1.remote)
    ∧ ((syncOnce φ m r).2.isErr = true → (syncOnce φ m r).1.pos = 0)
    ∧ (syncOnce φ m r).1.dbPos = r.dbPos ∧ (syncOnce φ m r).1.lo = r.lo
    ∧ (∀ t ∈ r.remote, t ∈ (syncOnce φ m r).1.remote) :=
  have p := syncOnce_post φ m r h
  ⟨p.ok, p.err, p.dbPos, p.lo, p.mono⟩

theorem no_false_ack (φ : Assign) (m : Nat) (r : R) (h : RInv r) (hok : (syncOnce φ m r).2 = .ok) :
    ∀ t, 1 ≤ t → t ≤ r.dbPos → t ∈ (syncOnce φ m r).1.remote ∨ t < (syncOnce φ m r).1.lo :=
  fun _ _ => (syncOnce_post φ m r h).no_false_ack hok

/-- `DB.SyncAndWait` returning nil acknowledges only what is stored. -/
theorem syncAndWait_no_false_ack (φ : Assign) (r : R) (h : RInv r) (hack : (syncAndWaitAck φ r).2 = true) :
    ∀ t, 1 ≤ t → t ≤ r.dbPos → t ∈ (syncAndWaitAck φ r).1.remote ∨ t < (syncAndWaitAck φ r).1.lo := by
  have : (syncOnce φ 0 r).2 = .ok := by simpa [syncAndWaitAck] using hack
  exact no_false_ack φ 0 r h this

/-- A `limited` result is *not* an acknowledgement: there is a state where it is returned while the
    newest transaction is missing on the remote (so `Replica.sync` must loop, as it does). -/
theorem limited_is_not_ack :
    (syncOnce (fun _ => .ok) 1 ⟨[], 1, 0, 2, 1, 0⟩).2 = .limited
    ∧ 2 ∉ (syncOnce (fun _ => .ok) 1 ⟨[], 1, 0, 2, 1, 0⟩).1.remote := by decide

theorem sync_spec (φ : Assign) (m : Nat) : ∀ (fuel : Nat) (r : R), RInv r →
    RInv (sync φ m fuel r).1 ∧ (sync φ m fuel r).1.dbPos = r.dbPos
    ∧ ((sync φ m fuel r).2 = .ok → ∀ t, 1 ≤ t → t ≤ r.dbPos →
          t ∈ (sync φ m fuel r).1.remote ∨ t < (sync φ m fuel r).1.lo) := by
  intro fuel r h
  have p := sync_post φ m fuel r h
  exact ⟨p.inv, p.dbPos, fun hok _ _ => p.no_false_ack hok⟩

/-- Once the faults stop, one `Replica.Sync` (`n = 1`) catches up, provided there is something to
    replicate and the local level-0 files after the remote maximum still exist. -/
theorem catches_up (φ : Assign) (r : R) (h : RInv r) (hφ : ∀ i, r.k ≤ i → φ i = .ok)
    (hdb : 0 < r.dbPos) (hlocal : r.localMin ≤ maxOf r.remote + 1) :
    ∃ n, (sync φ 0 n r).2 = .ok ∧ (sync φ 0 n r).1.pos = r.dbPos
      ∧ ∀ t, (sync φ 0 n r).1.lo ≤ t → t ≤ r.dbPos → t ∈ (sync φ 0 n r).1.remote := by
  have key := syncOnce_allok φ r h hφ hdb hlocal
  refine ⟨1, ?_⟩
  rw [sync_succ, if_neg (by rw [key.1]; nofun)]
  exact ⟨key.1, key.2, fun t h1 h2 => (syncOnce_post φ 0 r h).acked key.1 h1 h2⟩

theorem rinv_commit (r : R) (h : RInv r) : RInv (commit r) :=
  ⟨h.contig, h.lo_pos, h.lo_le, h.pos_eq, by have := h.max_le; simp only [commit]; omega⟩

/-- The part of `RInv` that does not depend on the local database (it survives losing it). -/
structure RemoteInv (r : R) : Prop where
  contig : Contig r.lo r.remote
  lo_pos : 1 ≤ r.lo
  lo_le : r.lo ≤ maxOf r.remote + 1

/-- After a restart in *any* local state (database restored from an older backup, local level-0
    directory lost, cache gone), a successful `init` re-establishes the full invariant — in particular
    "the remote is not ahead of the database". -/
theorem init_establishes_rinv (φ : Assign) (r : R) (h : RemoteInv r) (hpos : r.pos ≠ 0 → r.pos = maxOf r.remote)
    (hok : (initCheck φ r).2 = .ok) : RInv (initCheck φ r).1 := by
  revert hok
  unfold initCheck
  split
  · -- the listing succeeded
    split
    next hc =>  -- the database is not behind: nothing changes
      exact fun _ => ⟨h.contig, h.lo_pos, h.lo_le, hpos, by rcases hc with hc | hc <;> simp only <;> omega⟩
    split
    · -- behind, baseline downloaded: the database is re-based at the remote maximum
      exact fun _ => ⟨h.contig, h.lo_pos, h.lo_le, fun hp => absurd rfl hp, Nat.le_refl _⟩
    · exact nofun
  · exact nofun

/-- A failing listing (or baseline download) during `init` makes the first
    `SyncAndWait` return an error: nothing is acknowledged on the strength of an unchecked position.
    (This is the clause a "log and carry on" error path in `checkDatabaseBehindReplica` breaks.) -/
theorem init_fault_no_ack (φ : Assign) (r : R) (hf : φ r.k ≠ .ok) : (openSyncAndWait φ r).2 = none := by
  unfold openSyncAndWait initCheck
  cases h0 : φ r.k with
  | ok => exact absurd h0 hf
  | failBefore => rfl
  | failAfter => rfl

/-- `no_false_ack` for the first `SyncAndWait` after a restart in any local state; the database
    position is the (possibly re-based) one `init` leaves. -/
theorem open_no_false_ack (φ : Assign) (r : R) (h : RemoteInv r) (hpos : r.pos = 0)
    (hack : (openSyncAndWait φ r).2 = some true) :
    ∀ t, 1 ≤ t → t ≤ (initCheck φ r).1.dbPos →
      t ∈ (openSyncAndWait φ r).1.remote ∨ t < (openSyncAndWait φ r).1.lo := by
  have hinv := init_establishes_rinv φ r h (fun hp => absurd hpos hp)
  revert hack hinv
  unfold openSyncAndWait
  split
  next r1 hi =>  -- `init` succeeded
    rw [hi]
    exact fun hack hinv => syncAndWait_no_false_ack φ r1 (hinv rfl) (by simpa using hack)
  next => exact nofun

/-- Why the check matters (witness): a database behind its replica whose `init` skipped the check
    gets a nil `Replica.Sync` although its newest transaction is not on the remote as written by it —
    `RInv`'s `max_le` is exactly the hypothesis that fails. -/
theorem behind_without_check_false_ack :
    (syncOnce (fun _ => .ok) 0 ⟨[3, 2, 1], 1, 0, 1, 1, 0⟩).2 = .ok
    ∧ (syncOnce (fun _ => .ok) 0 ⟨[3, 2, 1], 1, 0, 1, 1, 0⟩).1.remote = [3, 2, 1] := by decide

/-- A failed baseline attempt (listing or download fault) is retried by the next `DB.Sync`. -/
theorem baseline_failed_stays_pending (φ : Assign) (b : B) (hp : b.pending = true)
    (hf : (baselineStep φ b).2 ≠ .ok) : (baselineStep φ b).1.pending = true := by
  obtain ⟨h2, _, hpend⟩ := baselineStep_pending φ b hp
  cases h : (baselineStep φ b).1.pending
  · exact absurd (h2 ▸ hpend.mp h) hf
  · rfl

theorem baseline_cleared_implies_rinv (φ : Assign) (b : B) (hp : b.pending = true) (h : RemoteInv b.r)
    (hpos : b.r.pos ≠ 0 → b.r.pos = maxOf b.r.remote)
    (hc : (baselineStep φ b).1.pending = false) : RInv (baselineStep φ b).1.r := by
  obtain ⟨_, h1, hpend⟩ := baselineStep_pending φ b hp
  rw [h1]
  exact init_establishes_rinv φ b.r h hpos (hpend.mp hc)

/-- After a run-time reset, whatever faults hit the first attempt, an attempt once faults have stopped
    clears the obligation with the invariant restored (remote state untouched by failed attempts). -/
theorem baseline_retry_succeeds (φ1 φ2 : Assign) (b : B) (hp : b.pending = true)
    (hok : ∀ i, φ2 i = .ok) (hf : (baselineStep φ1 b).2 ≠ .ok) :
    (baselineStep φ2 (baselineStep φ1 b).1).2 = .ok ∧ (baselineStep φ2 (baselineStep φ1 b).1).1.pending = false := by
  have hp1 := baseline_failed_stays_pending φ1 b hp hf
  generalize (baselineStep φ1 b).1 = b1 at hp1
  obtain ⟨h2, _, hpend⟩ := baselineStep_pending φ2 b1 hp1
  have hall : (initCheck φ2 b1.r).2 = .ok := by
    unfold initCheck
    simp only [hok]
    split <;> rfl
  exact ⟨h2.trans hall, hpend.mpr hall⟩

/-- **Witness (kernel-checked): clearing the flag first loses the obligation.** Remote `{1,2,3}`, local
    state reset, the listing of the first attempt fails; with `Swap(false)` the fault-free retry does
    nothing, the database restarts below the replica, and `syncOnce` returns nil without uploading. -/
theorem clear_first_loses_baseline :
    let b0 : B := resetLocal ⟨⟨[3, 2, 1], 1, 3, 3, 1, 0⟩, false⟩
    let φ1 : Assign := fun k => if k = 0 then .failBefore else .ok
    let ok : Assign := fun _ => .ok
    -- the code as it is: still pending, retry re-bases the database at the remote maximum
    (baselineStep φ1 b0).1.pending = true
    ∧ (baselineStep ok (baselineStep φ1 b0).1).1.r.dbPos = 3
    -- clearing first: obligation gone, retry is a no-op, the next transaction is "acknowledged" unsent
    ∧ (baselineStepClearFirst φ1 b0).1.pending = false
    ∧ (baselineStepClearFirst ok (baselineStepClearFirst φ1 b0).1).1.r.dbPos = 0
    ∧ (syncOnce ok 0 (commit (baselineStepClearFirst ok (baselineStepClearFirst φ1 b0).1).1.r)).2 = .ok
    ∧ (syncOnce ok 0 (commit (baselineStepClearFirst ok (baselineStepClearFirst φ1 b0).1).1.r)).1.remote = [3, 2, 1] := by
  decide

/-- (T) the keep-the-newest guard of `EnforceL0RetentionByTime` reads the REMOTE level-0 listing it
    iterates, and no cache-first lookup (regenerated from db.go on every run) -/
theorem gen_l0_guard_remote : Gen.l0GuardAgainstRemoteNewest = true ∧ Gen.l0GuardCallsCache = false := by
  first | exact ⟨rfl, rfl⟩ | decide

/-- Retention guarded by the newest REMOTE file keeps the invariant whether or not the replica lags. -/
theorem rinv_retain (m : Nat) (r : R) (h : RInv r) : RInv (retain m r) := by
  unfold retain
  split
  next hc =>  -- the guard holds: files below `m` go
    have hmax := maxOf_filter_ge r.remote m hc.1
    exact ⟨contig_filter h.contig hc.2 hc.1, Nat.le_trans h.lo_pos hc.2, by simp only [hmax]; omega,
      by simp only [hmax]; exact h.pos_eq, by simp only [hmax]; exact h.max_le⟩
  next => exact h

def lagR : R := ⟨[3], 3, 0, 4, 3, 0⟩
def allOk : Assign := fun _ => .ok

/-- **Witness (kernel-checked): guarding against the newest LOCAL file loses the replica.** Remote
    level 0 = {3} (1, 2 already retained, all in L1), the database is at 4 because the upload of 4 failed
    (cache cleared).  With the local guard retention empties the remote level 0 (and the local copies below
    4); the next sync computes position 0, wants the local file 1, and fails — for ever, without any fault.
    With the remote guard the same call changes nothing and the sync catches up. -/
theorem local_guard_loses_replica :
    (retainLocalGuard 4 lagR).remote = []
    ∧ (syncOnce allOk 0 (retainLocalGuard 4 lagR)).2 = .errLocal
    ∧ (syncOnce allOk 0 (syncOnce allOk 0 (retainLocalGuard 4 lagR)).1).2 = .errLocal
    ∧ (retain 4 lagR).remote = [3] ∧ (retain 4 lagR).localMin = 3
    ∧ (syncOnce allOk 0 (retain 4 lagR)).2 = .ok ∧ (syncOnce allOk 0 (retain 4 lagR)).1.remote = [4, 3] := by
  decide

/-- The whole remote (all levels) `fs` is consistent with the level-0 view `r`:
    a level-0 file for every remote TXID, a chain through the upper levels that reaches the retained
    minimum (`[]` when nothing was retained away), and nothing lying beyond the newest level-0 file. -/
structure ReplicaWF (fs : List FileInfo) (r : R) : Prop where
  wf : FilesWF fs
  l0 : ∀ t ∈ r.remote, ∃ f ∈ fs, f.level = 0 ∧ f.min = t ∧ f.max = t
  nonempty : r.remote ≠ []
  base : ∃ Q0, chainFrom 0 Q0 = true ∧ (∀ f ∈ Q0, f ∈ fs ∧ f.level ≤ snapshotLevel) ∧ r.lo ≤ chainEnd 0 Q0 + 1
  notAhead : ∀ f ∈ fs, f.level < snapshotLevel → f.min ≤ maxOf r.remote + 1

/-- In every state satisfying `RInv` (i.e. after any number of `syncOnce`
    calls under any fault assignment, `rinv_step`) whose upper levels are well-formed, the restore
    planner of C08 returns a plan for "latest". -/
theorem restorable_throughout (fs : List FileInfo) (r : R) (h : RInv r) (hw : ReplicaWF fs r) :
    ∃ P, planFiles fs ⟨0, none⟩ = .ok P := by
  obtain ⟨Q0, hq1, hq2, hq3⟩ := hw.base
  -- `base` spells out a chain of visible files (`Vis fs f` is `f ∈ fs ∧ f.level ≤ snapshotLevel`)
  have hQ0 : Chain (Vis fs) 0 Q0 (chainEnd 0 Q0) := ⟨hq1, rfl, hq2⟩
  -- having reached the retained minimum, the chain goes on through level 0 to the newest level-0 file
  obtain ⟨Q, hQ⟩ := hQ0.extend (Nat.le_max_left _ (maxOf r.remote)) fun t h1 h2 =>
    have ⟨f, hf, hl, hmm⟩ := hw.l0 t (h.contig.2 t (by omega) (by omega))
    ⟨f, ⟨hf, by omega⟩, hmm⟩
  have hpos : 1 ≤ maxOf r.remote := Nat.le_trans h.lo_pos (h.contig.1 _ (maxOf_mem hw.nonempty))
  refine C08.latest_planned hw.wf hQ (by omega) fun f hf hl => ?_
  have := hw.notAhead f hf hl
  omega

/-! A failing-after write is found again by the next listing, nothing is uploaded twice,
    and the invariant's hypotheses are satisfiable. -/
def demoφ : Assign := fun k => if k = 2 then .failAfter else if k = 4 then .failBefore else .ok
def demoR : R := ⟨[], 1, 0, 3, 1, 0⟩
example : RInv demoR := ⟨⟨by simp [demoR], by intro t h1 h2; simp [demoR, maxOf] at h2; simp [demoR] at h1; omega⟩,
  by simp [demoR], by simp [demoR, maxOf], by simp [demoR], by simp [demoR, maxOf]⟩
example : (syncOnce demoφ 0 demoR).2 = .errWrite ∧ (syncOnce demoφ 0 demoR).1.remote = [2, 1]
    ∧ (syncOnce demoφ 0 demoR).1.pos = 0 := by decide
example : (syncOnce demoφ 0 (syncOnce demoφ 0 demoR).1).2 = .errWrite
    ∧ (syncOnce demoφ 0 (syncOnce demoφ 0 demoR).1).1.remote = [2, 1] := by decide
example : (syncOnce demoφ 0 (syncOnce demoφ 0 (syncOnce demoφ 0 demoR).1).1).2 = .ok
    ∧ (syncOnce demoφ 0 (syncOnce demoφ 0 (syncOnce demoφ 0 demoR).1).1).1.remote = [3, 2, 1] := by decide

end C05
end Litestream
