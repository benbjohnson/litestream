import Litestream.Model.Sql
import Litestream.Gen.Sql
/-!
# C14 — Litestream never alters the application's data in the source database

(T) every SQL statement in the files that touch the source database is one of
eight allowed statements, none of its transactions is ever committed, and the
database path is only ever opened read-only — re-derived from source on every
run.  Over the abstract store: any interleaving of application statements and
litestream statements leaves the application's view exactly as the application
statements alone would, and the lock table is empty whenever litestream's
transactions have ended.  SQLite's semantics of the eight statements is the
trusted part, validated by the control engine (c14).
-/
namespace Litestream
namespace C14
open Sq

theorem gen_sql_allowed : ∀ s ∈ Gen.Sql.inventory, (classify s.2).isSome = true := by
  -- no `-String.reduceBEq` here or below (cf. `C04.gen_incremental_sites`): every `==` of `classify` is the condition
  -- of an `if`, which `beq_iff_eq` turns into `=` before that simproc applies; the proof term is the same either way
  simp [Gen.Sql.inventory, classify]

theorem gen_lock_tx_never_commits : Gen.Sql.commitCalls = [] := rfl

/-- The database file, its `-wal` and its `-shm` are only ever opened with `os.Open` (read-only) by
    litestream's own file calls; never created, written, truncated, renamed or removed. -/
theorem gen_db_file_readonly : ∀ c ∈ Gen.Sql.dbPathCalls,
    c = "init: os.Open(db.path)" ∨ c = "detectFullCheckpoint: os.Open(db.WALPath())" ∨
    c = "snapshotReader: os.Open(db.WALPath())" ∨ c = "sync: os.Open(db.WALPath())" := by
  simp [Gen.Sql.dbPathCalls]

/-- The database file itself is opened by litestream's own file calls exactly once, in `init`
    (the handle `db.f`, kept until `Close`); its `-shm` never.  Every other descriptor on it would,
    when closed, drop all POSIX locks the process holds on the file — SQLite's too. -/
theorem gen_db_file_opened_once :
    Gen.Sql.dbPathCalls.count "init: os.Open(db.path)" = 1 ∧
    ∀ c ∈ Gen.Sql.dbPathCalls, c ≠ "init: os.Open(db.path)" →
      c = "detectFullCheckpoint: os.Open(db.WALPath())" ∨ c = "snapshotReader: os.Open(db.WALPath())" ∨ c = "sync: os.Open(db.WALPath())" :=
  ⟨by simp [Gen.Sql.dbPathCalls], fun c hc hne => (gen_db_file_readonly c hc).resolve_left hne⟩

/-- The path of the database file (or of its `-shm`) is handed to no helper that could open it. -/
theorem gen_db_path_not_passed_on : Gen.Sql.dbPathPassedTo = [] := rfl

/-- The lock insert only ever occurs inside the function that rolls its transactions back. -/
theorem gen_lock_insert_sites : ∀ s ∈ Gen.Sql.inventory, classify s.2 = some .insertLockInTx → s.1 = "checkpointWithExecutor" := by
  simp [Gen.Sql.inventory, classify]

/-- The lock insert is only ever issued on a transaction handle (`*sql.Tx`), never on the
    connection pool, where it would be committed at once. -/
theorem gen_lock_insert_only_in_tx : ∀ r ∈ Gen.Sql.receivers,
    classify r.2.1 = some .insertLockInTx → r.2.2 = "tx" := by
  simp [Gen.Sql.receivers, classify]

theorem exec_user {U : Type} (s : Store U) (o : Op U) :
    (exec s o).user = match o with | .app f => f s.user | _ => s.user := by
  cases o with
  | app f => rfl
  | ls c => cases c <;> rfl
  | lsRollback => rfl

theorem exec_lockRows {U : Type} (s : Store U) (o : Op U) : (exec s o).lockRows = s.lockRows := by
  cases o with
  | app f => rfl
  | ls c => cases c <;> rfl
  | lsRollback => rfl

theorem run_user_congr {U : Type} (ops : List (Op U)) : ∀ (s t : Store U), s.user = t.user →
    (run s ops).user = (run t (ops.filter isApp)).user := by
  induction ops with
  | nil => exact fun _ _ h => h
  | cons o os ih =>
    intro s t h
    cases o with
    | app f => exact ih _ _ (congrArg f h)
    | ls c => exact ih _ t ((exec_user s _).trans h)
    | lsRollback => exact ih _ t h

theorem user_view_unchanged {U : Type} (ops : List (Op U)) (s : Store U) :
    (run s ops).user = (run s (ops.filter isApp)).user :=
  run_user_congr ops s s rfl

/-- Inserts stay pending inside litestream's transaction and the transaction only ends by rollback. -/
theorem lock_table_empty {U : Type} (ops : List (Op U)) (s : Store U) (h : s.lockRows = 0) :
    (run s ops).lockRows = 0 :=
  List.foldlRecOn ops exec (motive := fun s => s.lockRows = 0) h fun s hs o _ => (exec_lockRows s o).trans hs

theorem nothing_pending_after_rollback {U : Type} (s : Store U) : (exec s (.lsRollback : Op U)).pendingLock = 0 := rfl

/-- Litestream only ever adds its two bookkeeping tables. -/
theorem only_two_tables {U : Type} (ops : List (Op U)) (s : Store U) : (run s ops).user = (run s (ops.filter isApp)).user :=
  user_view_unchanged ops s

example : (run (⟨0, false, false, none, 0, 0, false⟩ : Store Nat)
    [.ls .createSeq, .app (· + 5), .ls .upsertSeq, .ls .insertLockInTx, .app (· * 2), .lsRollback, .ls .checkpoint]).user = 10 := by decide

end C14
end Litestream
