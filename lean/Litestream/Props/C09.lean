import Litestream.Gen.Wal
import Litestream.Lemmas.WalFrames
import Litestream.Lemmas.WalSpec
/-!
# C09 — Only frames SQLite itself treats as committed are ever replicated

Model: `Model/Wal.lean` (byte level).  Hypotheses forced by the proofs (DESIGN §3 C09, E1 in §4) are explicit and
decidable:

* `goodPageSize h.ps` — SQLite ignores a WAL whose header page size is not a power of two in
  512..65536; litestream does not test it (a size that is not a multiple of 8 makes `WALChecksum`
  panic — `Err.misaligned` in the model).
* `noZeroPgno` — no frame passing litestream's salt + cumulative-checksum test has `pgno = 0`
  (SQLite's `walDecodeFrame` rejects such a frame, litestream accepts it).
* `commitKept` — the last commit frame's own page number does not exceed its commit size; needed for
  the *end offset* and *commit* outputs only (otherwise the commit frame is trimmed from the map and
  `end`, computed from the highest kept offset, falls short; with an empty map `(∅,0,0)` is returned).

All three excluded points need a re-checksummed forgery; the engine's malformed stream runs them on the
real code and records the outcome in the evidence (`excluded-outcome:*`).

Not modelled: the reader's state after a *failed* `ReadFrame` (the Go code leaves a polluted running
checksum behind after a checksum mismatch; `pageMap` never calls `ReadFrame` again, and the engine
observes `eof` on a second call in every case it runs).
-/
namespace Litestream.C09
open Litestream.Wal

theorem gen_hdrSize_eq : Gen.Wal.walHeaderSize = hdrSize := by decide
theorem gen_fhSize_eq : Gen.Wal.walFrameHeaderSize = fhSize := by decide
theorem gen_magicLE_eq : Gen.Wal.magicLittleEndian = magicLE := by decide
theorem gen_magicBE_eq : Gen.Wal.magicBigEndian = magicBE := by decide
theorem gen_version_eq : Gen.Wal.walVersion = walVersion := by decide
/-- field offsets decoded by `readHeader` are the ones `parseHdr` uses -/
theorem gen_hdrFields_eq : Gen.Wal.readHeaderFields =
    [(0, "magic"), (4, "version"), (8, "pageSize"), (12, "seq"), (16, "salt1"), (20, "salt2"), (24, "chksum1"), (28, "chksum2")] := rfl
/-- field offsets decoded by `readFrame` are the ones `parseFrame` uses -/
theorem gen_frameFields_eq : Gen.Wal.readFrameFields =
    [(0, "pgno"), (4, "commit"), (8, "salt1"), (12, "salt2"), (16, "chksum1"), (20, "chksum2")] := rfl

/-! ### integer widths of the offset arithmetic

The Nat model has unbounded offsets; the Go code computes them in fixed-width integers. The translator
(go/types) inventories, for all of wal_reader.go and the WAL-offset statements of db.go, every integer
multiplication with the width it is computed in, every narrowing conversion, and every widening
conversion of arithmetic done below 64 bits. On /repo: all products are 64-bit, nothing narrows, and the
only sub-64-bit arithmetic that is widened afterwards is the frame-size sum `pageSize + 24` (it wraps
only for header page sizes ≥ 2^32-24, the stated modelling assumption). Together with
`offset_fits_int64` (every offset of a frame inside a file shorter than 2^63 bytes is below 2^63) the
model's unbounded arithmetic agrees with the code's. The engine's virtual WALs > 4 GiB exercise it. -/

theorem gen_offset_products_64bit : Gen.Wal.offsetProducts.all (fun p => p.2.2 == 64) = true := by decide
/-- the anchors are still there: `Offset`, `readFrame` and `pageMap` each compute exactly one product -/
theorem gen_offset_products_anchors :
    (Gen.Wal.offsetProducts.map (·.1)).filter (fun f => f == "Offset" || f == "readFrame" || f == "pageMap")
      = ["Offset", "readFrame", "pageMap"] := by decide
theorem gen_no_narrowing_conversion : Gen.Wal.narrowingConversions = [] := by decide
theorem gen_widened_arith_no_product : Gen.Wal.widenedNarrowArith.all (fun c => !c.2.2.2) = true := by decide

theorem offset_fits_int64 (ps i len : Nat) (hin : frameOff ps i + (fhSize + ps) ≤ len) (hlen : len < 2 ^ 63) :
    i * (fhSize + ps) < 2 ^ 63 ∧ frameOff ps i < 2 ^ 63 :=
  have hoff : frameOff ps i < 2 ^ 63 := Nat.lt_of_le_of_lt (Nat.le_trans (Nat.le_add_right _ _) hin) hlen
  ⟨Nat.lt_of_le_of_lt (Nat.le_add_left _ _) hoff, hoff⟩

def noZeroPgno (h : Hdr) (fs : List Frame) : Bool :=
  (List.range fs.length).all (fun i => !lsValidAt h fs i || sqValidAt h fs i)

theorem noZeroPgno_spec (h : Hdr) (fs : List Frame) (hz : noZeroPgno h fs = true) :
    ∀ i, lsValidAt h fs i = true → sqValidAt h fs i = true := by
  intro i hl
  obtain ⟨f, hget, _⟩ := (lsValidAt_iff h fs i).mp hl
  have := List.all_eq_true.mp hz i (List.mem_range.mpr (List.getElem?_eq_some_iff.mp hget).1)
  rw [hl] at this; simpa using this

def commitKept (r : Recovered) : Bool :=
  r.mx == 0 || (match r.vp[r.mx - 1]? with | some f => decide (f.pgno ≤ r.commit) | none => false)

theorem commitKept_iff (r : Recovered) :
    commitKept r = true ↔ r.mx = 0 ∨ ∃ f, r.vp[r.mx - 1]? = some f ∧ f.pgno ≤ r.commit := by
  unfold commitKept
  cases r.vp[r.mx - 1]? <;> simp

/-- C09: repeated `ReadFrame` on `NewWALReader(b)` yields the longest prefix of frames passing the salt and
    cumulative-checksum test, then `io.EOF`. -/
theorem reader_valid_prefix (b : Bytes) (h : Hdr) (hh : parseHdr b = .ok h) (h8 : h.ps % 8 = 0) :
    ∃ r, newReader b = .ok r ∧
      framesRead r = ((lsPrefix h b).map (fun f => (f.pgno, f.commit)), .eof) :=
  ⟨_, newReader_ok b h hh, framesRead_readerAt b h h8 0 (Nat.zero_le _)⟩

theorem valid_prefix_maximal (h : Hdr) (fs : List Frame) (hlt : nValid (lsValidAt h fs) fs < fs.length) :
    lsValidAt h fs (nValid (lsValidAt h fs) fs) = false :=
  nValid_stop _ fs hlt

theorem valid_prefix_valid (h : Hdr) (fs : List Frame) (i : Nat) (hi : i < nValid (lsValidAt h fs) fs) :
    lsValidAt h fs i = true :=
  nValid_valid _ fs i hi

theorem bad_header_reads_nothing (b : Bytes) (e : Err) (hh : parseHdr b = .error e) (off : Nat) (salt : Ck) :
    newReader b = .error e ∧ (newReaderAt b off salt = .error e ∨ newReaderAt b off salt = .error .offset) := by
  constructor
  · unfold newReader; rw [hh]
  · unfold newReaderAt
    by_cases ho : off ≤ hdrSize
    · right; rw [if_pos ho]
    · left; rw [if_neg ho, hh]

/-- C09: `PageMap()` on `NewWALReader(b)` equals what SQLite recovers from `b`; the commit size and the end offset
    only under `commitKept`. -/
theorem pageMap_eq_recover (b : Bytes) (h : Hdr) (hh : parseHdr b = .ok h)
    (hps : goodPageSize h.ps = true) (hz : noZeroPgno h (rawFrames h.ps b) = true) :
    ∃ r res rec, newReader b = .ok r ∧ pageMap0 r = .ok res ∧ recover b = some rec ∧
      (∀ pg, pmGet res.m pg = rec.look pg) ∧ res.limited = false ∧
      (commitKept rec = true → res.commit = rec.commit ∧ res.end_ = rec.end_) := by
  -- the reader runs the list-level loop over the valid prefix; the loop keeps `Inv`; `Inv` gives the tail
  have hinv := pmList_inv_start h.ps (frameOff h.ps 0) (lsPrefix h b)
  have hrec := recover_eq b h hh hps
  rw [sqPrefix_eq_lsPrefix h b (noZeroPgno_spec _ _ hz)] at hrec
  exact ⟨_, _, _, newReader_ok b h hh, pageMap_readerAt b h (goodPageSize_mod8 hps) 0 (Nat.zero_le _) 0, hrec,
    pmFinish_look hinv _, (pmFinish_limited ..).trans (pmList0_snd ..),
    fun hk => pmFinish_end hinv _ rfl ((commitKept_iff _).mp hk)⟩

/-- `NewWALReaderWithOffset` at the boundary before frame `k` of the valid prefix, with the header salts, delivers
    exactly the rest of the prefix. -/
theorem resume_eq_drop (b : Bytes) (h : Hdr) (hh : parseHdr b = .ok h) (h8 : h.ps % 8 = 0)
    (k : Nat) (hk0 : 0 < k) (hk : k ≤ (lsPrefix h b).length) :
    ∃ r, newReaderAt b (frameOff h.ps k) h.salt = .ok r ∧
      framesRead r = (((lsPrefix h b).drop k).map (fun f => (f.pgno, f.commit)), .eof) ∧
      ∀ mx, pageMap r mx = .ok (pmFinish h.ps
        (pmList h.ps (frameOff h.ps k) mx k ((lsPrefix h b).drop k) {}).1
        (pmList h.ps (frameOff h.ps k) mx k ((lsPrefix h b).drop k) {}).2) :=
  ⟨_, newReaderAt_ok b h hh k hk0 hk, framesRead_readerAt b h h8 k hk, pageMap_readerAt b h h8 k hk⟩

/-- `PrevFrameMismatchError`: db.go then falls back to a full read from the WAL header. -/
theorem resume_rejects (b : Bytes) (h : Hdr) (hh : parseHdr b = .ok h) (off : Nat) (salt : Ck)
    (hoff : hdrSize < off) (hal : (off - hdrSize) % (h.ps + fhSize) = 0)
    (hbad : ∀ f, (rawFrames h.ps b)[(off - hdrSize) / (h.ps + fhSize) - 1]? = some f → f.salt ≠ salt) :
    newReaderAt b off salt = .error .prevFrame := by
  rw [newReaderAt_eq b h hh off salt hoff hal]
  cases hg : (rawFrames h.ps b)[(off - hdrSize) / (h.ps + fhSize) - 1]? with
  | none => rfl
  | some f => exact if_neg (hbad f hg)

/-- C09: whatever bytes sit in or after the first invalid frame, nothing of them reaches the reader's output
    (`ReadFrame` results, `pageMap` with any budget). -/
theorem nothing_after_invalid (b b' : Bytes) (h : Hdr) (hh : parseHdr b = .ok h) (hh' : parseHdr b' = .ok h)
    (h8 : h.ps % 8 = 0) (hvp : lsPrefix h b = lsPrefix h b') :
    ∃ r r', newReader b = .ok r ∧ newReader b' = .ok r' ∧ framesRead r = framesRead r' ∧
      ∀ mx, pageMap r mx = pageMap r' mx := by
  refine ⟨_, _, newReader_ok b h hh, newReader_ok b' h hh', ?_, fun mx => ?_⟩
  · rw [framesRead_readerAt b h h8 0 (Nat.zero_le _), framesRead_readerAt b' h h8 0 (Nat.zero_le _), hvp]
  · rw [pageMap_readerAt b h h8 0 (Nat.zero_le _), pageMap_readerAt b' h h8 0 (Nat.zero_le _), hvp]

theorem pageMap_sees_only_valid_prefix (b : Bytes) (h : Hdr) (hh : parseHdr b = .ok h) (h8 : h.ps % 8 = 0) (mx : Nat) :
    ∃ r, newReader b = .ok r ∧ pageMap r mx = .ok (pmFinish h.ps
        (pmList h.ps (frameOff h.ps 0) mx 0 (lsPrefix h b) {}).1
        (pmList h.ps (frameOff h.ps 0) mx 0 (lsPrefix h b) {}).2) :=
  ⟨_, newReader_ok b h hh, pageMap_readerAt b h h8 0 (Nat.zero_le _) mx⟩

/-! ### Chunked reading (MaxSyncWALBytes)

Full statement (DESIGN): for every budget, folding `pageMap` with that budget from successive end
offsets yields the page map (content) and end offset of the unbudgeted `pageMap`.

Proved (`…_partial`, list level over the accepted frames, no hypotheses): (1) the budget can stop the
loop only directly after a commit frame has been merged (`budget_stops_at_commit`); (2) the unbudgeted
loop equals the budgeted chunk followed by the unbudgeted loop on the remaining frames started from the
chunk's state (`chunk_then_rest`); (3) continuing from a chunk's state is, page by page, the fresh map of
the rest laid over the chunk's map, untrimmed (`chunks_compose_partial`).  Together with
`resume_eq_drop` (the next reader sees exactly the remaining frames) this gives composition of the
**untrimmed** maps for every budget.  NOT proved: the interplay with the per-chunk trim `pgno > commit`
(it needs the extra hypothesis that a page beyond an earlier chunk's commit size is rewritten before the
database regrows over it — true of every WAL SQLite writes, false for some re-checksummed forgeries, see
the evidence counter `excluded-outcome:forged-regrowth->chunks-differ`), and the byte-level `chunks`
loop as a whole (end offset = next start, which needs `commitKept` per chunk).  Both are covered by the
engine (`chunks` op: model vs code, and the composition oracle on every budget around every commit). -/

theorem budget_stops_at_commit (ps start mx i : Nat) (vp : List Frame) (st st' : PMState)
    (h : pmList ps start mx i vp st = (st', true)) : st'.tx = [] ∧ st'.commit ≠ 0 := by
  obtain ⟨pre, f, _, _, hf, rfl⟩ := pmList_limited h
  unfold pmStep
  rw [if_pos hf]
  exact ⟨rfl, hf⟩

theorem chunk_then_rest (ps start mx i : Nat) (vp : List Frame) (st st1 : PMState)
    (h : pmList ps start mx i vp st = (st1, true)) :
    ∃ j, j ≤ vp.length ∧ 0 < j ∧ pmList ps start 0 i vp st = pmList ps start 0 (i + j) (vp.drop j) st1 := by
  obtain ⟨pre, f, suf, rfl, _, rfl⟩ := pmList_limited h
  have hd : (pre ++ f :: suf).drop (pre.length + 1) = suf := by simp
  refine ⟨pre.length + 1, by simp, Nat.succ_pos _, ?_⟩
  rw [hd, pmList0_append, pmList_cons0, Nat.add_assoc]

theorem chunks_compose_partial (ps start i : Nat) (vp : List Frame) (st1 : PMState) (htx : st1.tx = []) (pg : Nat) :
    pmGet (pmList ps start 0 i vp st1).1.m pg =
      orElse' (pmGet (pmList ps start 0 i vp {}).1.m pg) (pmGet st1.m pg) :=
  pmList_underlay ps start i vp st1 {} st1.m htx (fun _ => rfl) pg

/-! ## A concrete 3-frame big-endian WAL (page size 512; frames: page 2, page 1 + commit 2,
     page 1 uncommitted) satisfies every hypothesis above. -/

def exHdr : Bytes := [55, 127, 6, 131, 0, 45, 226, 24, 0, 0, 2, 0, 0, 0, 0, 0, 0, 0, 0, 7, 0, 0, 0, 9, 22, 4, 202, 222, 188, 221, 164, 160]
def exFrame (pg commit : UInt8) (ck : List UInt8) (fill : UInt8) : Bytes :=
  [0,0,0,pg, 0,0,0,commit, 0,0,0,7, 0,0,0,9] ++ ck ++ List.replicate 512 fill
def exWal : Bytes := exHdr ++ exFrame 2 0 [207, 171, 10, 1, 216, 4, 109, 102] 1 ++ exFrame 1 2 [135, 58, 18, 154, 109, 207, 73, 244] 2 ++ exFrame 1 0 [140, 10, 128, 165, 154, 143, 224, 163] 3

def exH : Hdr := { be := true, ps := 512, salt := (7, 9), ck := (369412830, 3168642208) }

example : parseHdr exHdr = .ok exH := by rfl
example : (match parseHdr exWal with | .ok h => decide (h = exH) | .error _ => false) = true := by decide +kernel
example : goodPageSize exH.ps = true := by decide
example : exH.ps % 8 = 0 := by decide
example : noZeroPgno exH (rawFrames exH.ps exWal) = true := by decide +kernel
example : (lsPrefix exH exWal).length = 3 := by decide +kernel
example : (recover exWal).map (fun r => (r.mx, r.commit, r.pages, commitKept r)) = some (2, 2, [(2, 32), (1, 568)], true) := by decide +kernel
/-- a budget that stops the first chunk exists -/
example : (pmList 512 32 1 0 (lsPrefix exH exWal) {}).2 = true := by decide +kernel

end Litestream.C09
