import Litestream.Gen.VerifySteps
/-!
# C04 — (T) the guarded steps of `DB.verifyWithExecutor`

`Vf.verify` (`Model/Verify.lean`) was written against this sequence of guarded
assignments, helper calls and returns.  It is regenerated from db.go on every
run; the decision table itself is compared with the running code by engine c04
(tie C).
-/
namespace Litestream
namespace C04

def expectedVerifySteps : List (String × String) := [
  ("set info.snapshotting = true", ""),
  ("set info.offset = WALHeaderSize", "exec.pos.TXID == 0"),
  ("return info,nil", "exec.pos.TXID == 0"),
  ("return error", "err != nil"),
  ("return error", "err != nil"),
  ("set info.offset = dec.Header().WALOffset + dec.Header().WALSize", ""),
  ("set info.salt1 = dec.Header().WALSalt1", ""),
  ("set info.salt2 = dec.Header().WALSalt2", ""),
  ("set info.prevCommit = dec.Header().Commit", ""),
  ("set info.reason = \"previous checkpoint failed after it ran, snapshotting\"", "exec.state.checkpointUnresolved"),
  ("return info,nil", "exec.state.checkpointUnresolved"),
  ("return error", "err != nil"),
  ("set exec.state.truncatePassiveFailed = false", "!(err != nil) && info.offset > fi.Size()"),
  ("readWALHeader(db.WALPath())", "!(err != nil) && info.offset > fi.Size() && exec.state.syncedToWALEnd"),
  ("return error", "!(err != nil) && info.offset > fi.Size() && exec.state.syncedToWALEnd && err != nil"),
  ("set info.offset = WALHeaderSize", "!(err != nil) && info.offset > fi.Size() && exec.state.syncedToWALEnd"),
  ("set info.salt1 = binary.BigEndian.Uint32(hdr[16:])", "!(err != nil) && info.offset > fi.Size() && exec.state.syncedToWALEnd"),
  ("set info.salt2 = binary.BigEndian.Uint32(hdr[20:])", "!(err != nil) && info.offset > fi.Size() && exec.state.syncedToWALEnd"),
  ("set info.snapshotting = false", "!(err != nil) && info.offset > fi.Size() && exec.state.syncedToWALEnd"),
  ("set info.reason = \"\"", "!(err != nil) && info.offset > fi.Size() && exec.state.syncedToWALEnd"),
  ("set info.clearSyncedToWALEnd = true", "!(err != nil) && info.offset > fi.Size() && exec.state.syncedToWALEnd"),
  ("return info,nil", "!(err != nil) && info.offset > fi.Size() && exec.state.syncedToWALEnd"),
  ("set info.reason = \"wal truncated by another process\"", "!(err != nil) && info.offset > fi.Size()"),
  ("return info,nil", "!(err != nil) && info.offset > fi.Size()"),
  ("readWALHeader(db.WALPath())", ""),
  ("return error", "err != nil"),
  ("set saltMatch = salt1 == dec.Header().WALSalt1 && salt2 == dec.Header().WALSalt2", ""),
  ("set exec.state.truncatePassiveFailed = false", "!saltMatch"),
  ("set info.snapshotting = false", "info.offset == WALHeaderSize && saltMatch"),
  ("return info,nil", "info.offset == WALHeaderSize && saltMatch"),
  ("set info.reason = \"wal header salt reset, snapshotting\"", "info.offset == WALHeaderSize"),
  ("return info,nil", "info.offset == WALHeaderSize"),
  ("set prevWALOffset = info.offset - frameSize", ""),
  ("set info.snapshotting = false", "prevWALOffset == WALHeaderSize && saltMatch"),
  ("return info,nil", "prevWALOffset == WALHeaderSize && saltMatch"),
  ("set info.reason = \"wal header salt reset, snapshotting\"", "prevWALOffset == WALHeaderSize"),
  ("return info,nil", "prevWALOffset == WALHeaderSize"),
  ("return error", "!(prevWALOffset == WALHeaderSize) && prevWALOffset < WALHeaderSize"),
  ("lastPageMatch(ctx,dec,prevWALOffset,frameSize)", ""),
  ("return error", "err != nil"),
  ("set info.reason = \"last page does not exist in last ltx file, wal overwritten by another process\"", "!(err != nil) && !lastPageMatch"),
  ("return info,nil", "!(err != nil) && !lastPageMatch"),
  ("set info.offset = WALHeaderSize", "!saltMatch"),
  ("set info.salt1 = salt1", "!saltMatch"),
  ("set info.salt2 = salt2", "!saltMatch"),
  ("set info.reason = \"wal restarted while not replicating, snapshotting\"", "!saltMatch && exec.state.lastSyncedWALOffset == 0"),
  ("return info,nil", "!saltMatch && exec.state.lastSyncedWALOffset == 0"),
  ("detectFullCheckpoint(ctx,[][2]uint32{{salt1, salt2}, {dec.Header().WALSalt1, dec.Header().WALSalt2}})", "!saltMatch"),
  ("return error", "!saltMatch && err != nil"),
  ("set info.reason = \"full or restart checkpoint detected, snapshotting\"", "!saltMatch && !(err != nil) && detected"),
  ("set info.snapshotting = false", "!saltMatch && !(err != nil) && !(detected)"),
  ("return info,nil", "!saltMatch"),
  ("set info.snapshotting = false", ""),
  ("return info,nil", "")
]

theorem gen_verify_steps_eq : Gen.VerifySteps.steps = expectedVerifySteps := rfl

def incrementalGuards (l : List (String × String)) : List String :=
  (l.filter (fun s => s.1 == "set info.snapshotting = false")).map (·.2)

/-- verify continues incrementally at exactly five sites: expected truncation after a sync to the
    WAL end; salts unchanged at the WAL header; salts unchanged one frame in; a WAL restart that
    `detectFullCheckpoint` attributes to litestream's own checkpoint (reached only with in-memory
    state, after the `lastSyncedWALOffset == 0` return); and the ordinary case at the end. -/
theorem gen_incremental_sites :
    incrementalGuards Gen.VerifySteps.steps =
      ["!(err != nil) && info.offset > fi.Size() && exec.state.syncedToWALEnd",
       "info.offset == WALHeaderSize && saltMatch",
       "prevWALOffset == WALHeaderSize && saltMatch",
       "!saltMatch && !(err != nil) && !(detected)",
       ""] := by
  -- `-String.reduceBEq`: that simproc settles each `"…" == "…"` by a `decide` which the kernel then evaluates
  -- (`String.decEq`; some twenty times the checking time here). Without it `==` becomes `=`, equal literals
  -- close as they stand and a mismatch is refuted at the first character that differs.
  simp [incrementalGuards, Gen.VerifySteps.steps, -String.reduceBEq]

/-- The start-up return (repair of F2) precedes the `detectFullCheckpoint` call. -/
theorem gen_startup_return_before_detect :
    (Gen.VerifySteps.steps.map (·.1)).idxOf "set info.reason = \"wal restarted while not replicating, snapshotting\""
      < (Gen.VerifySteps.steps.map (·.1)).idxOf "detectFullCheckpoint(ctx,[][2]uint32{{salt1, salt2}, {dec.Header().WALSalt1, dec.Header().WALSalt2}})" := by
  -- `-String.reduceBEq`: as in `gen_incremental_sites`
  simp [Gen.VerifySteps.steps, List.idxOf_cons, cond_eq_ite, -String.reduceBEq]

end C04
end Litestream
