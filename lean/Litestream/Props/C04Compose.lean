import Litestream.Props.C04
/-!
# C04 — the decision composed with the sync that follows it

`Props/C04.lean` judges the *decision* of `verify`.  Here the decision is composed
with what the next `DB.sync` then writes: a snapshot of the committed state when
`snapshot = true` (that a snapshot equals the committed state is
`C01Snap.snapshot_reads_committed_state`), otherwise the frames read from
`(idx, salt)` on.

Granularity: page writes (last write wins); database size is carried by
`Model/SyncStep.lean` and is not repeated here.
-/
namespace Litestream
namespace C04
open Vf

abbrev Pages := Nat → Nat

def writeAll (d : Pages) (fs : List (Nat × Nat)) : Pages :=
  fs.foldl (fun d p => fun q => if q = p.1 then p.2 else d q) d

theorem writeAll_append (d : Pages) (a b : List (Nat × Nat)) : writeAll d (a ++ b) = writeAll (writeAll d a) b := by
  unfold writeAll; rw [List.foldl_append]

def allFrames (gs : List Gen) : List (Nat × Nat) := (gs.map (·.frames)).flatten

/-- Frames at or before position `(c,k)`. -/
def seen (gs : List Gen) (c k : Nat) : List (Nat × Nat) :=
  allFrames (gs.take c) ++ (match gs.drop c with | [] => [] | g :: _ => g.frames.take k)

theorem seen_append_unseen (gs : List Gen) (c k : Nat) : seen gs c k ++ unseen gs c k = allFrames gs := by
  unfold seen unseen allFrames
  conv => rhs; rw [← List.take_append_drop c gs]
  rw [List.map_append, List.flatten_append]
  cases h : gs.drop c with
  | nil => simp
  | cons g rest =>
    simp only [List.map_cons, List.flatten_cons, List.append_assoc]
    congr 1
    rw [← List.append_assoc, List.take_append_drop]

/-- The application's database. -/
def source (gs : List Gen) : Pages := writeAll (fun _ => 0) (allFrames gs)
/-- What the replica holds at position `(c,k)`. -/
def replicated (gs : List Gen) (c k : Nat) : Pages := writeAll (fun _ => 0) (seen gs c k)

theorem source_eq (gs : List Gen) (c k : Nat) : source gs = writeAll (replicated gs c k) (unseen gs c k) := by
  unfold source replicated; rw [← writeAll_append, seen_append_unseen]

/-- The replica after `verify` + the sync acting on its decision. -/
def afterSync (gs : List Gen) (c k : Nat) (out : VOut) (hdrSalt ltxSalt : Nat) : Pages :=
  if out.snapshot then source gs
  else writeAll (replicated gs c k) (continued gs out.idx (if out.useHdrSalt then hdrSalt else ltxSalt))

theorem afterSync_of_sound {gs : List Gen} {c k : Nat} {out : VOut} {hdrSalt ltxSalt : Nat}
    (h : out.snapshot = false →
      continued gs out.idx (if out.useHdrSalt then hdrSalt else ltxSalt) = unseen gs c k) :
    afterSync gs c k out hdrSalt ltxSalt = source gs := by
  unfold afterSync
  cases hs : out.snapshot with
  | true => rfl
  | false => rw [if_neg Bool.false_ne_true, h hs, ← source_eq]

/-- Start-up: for every physical content of the WAL file (including truncated, deleted, overwritten) the
    replica after verify + sync is the source state: nothing the application committed while litestream
    was away is left out. -/
theorem startup_verify_then_sync_restores (gs : List Gen) (hd : SaltsDistinct gs) (c k : Nat) (g l : Gen)
    (hc : gs[c]? = some g) (hl : gs.getLast? = some l)
    (frames : List PFrame) (pages : List (Nat × Nat)) :
    afterSync gs c k (verify ⟨false, ⟨g.salt, k, pages⟩, l.salt, frames, false, true, false⟩) l.salt g.salt = source gs :=
  afterSync_of_sound (fresh_incremental_sound gs hd c k g l hc hl frames pages)

/-- Running, own checkpoint: position at the sealed end of the live generation, one new generation after it. -/
theorem running_verify_then_sync_restores (gs : List Gen) (g n : Gen) (hlast : gs.getLast? = some g)
    (frames : List PFrame) (pages : List (Nat × Nat)) (se : Bool)
    (hsalt : n.salt ≠ g.salt) (hlen : g.frames.length ≤ frames.length) :
    afterSync (gs ++ [n]) (gs.length - 1) g.frames.length
      (verify ⟨false, ⟨g.salt, g.frames.length, pages⟩, n.salt, frames, se, false, false⟩) n.salt g.salt = source (gs ++ [n]) :=
  afterSync_of_sound (running_own_checkpoint_sound gs g n hlast frames pages se hsalt hlen)

/-- The old code (finding F2) on the F2 world: page 5 of generation A never reaches the replica. -/
theorem f2_old_code_replica_differs :
    afterSync f2World 0 3 (verifyBeforeFix f2In) 2 1 5 ≠ source f2World 5 := by decide

/-! ### Recorded finding: a rollback inside one WAL generation that keeps the last frame

`verify` looks at the WAL prefix before its position through one frame only.  If the database
file and its WAL are rolled back (while litestream is down) to an earlier raw copy of the same
generation and a different history is then written past the rollback point, the generation's
frames before the position are *rewritten* — outside the world of `Model/Verify.lean`, where a
generation only grows.  When the frame just before the position happens to be byte-identical in
both histories, the decision cannot differ. -/

theorem same_generation_decision_sees_one_frame (i : VIn) (fr : List PFrame)
    (hs : i.hdrSalt = i.ltx.salt) (hl : fr.length = i.frames.length)
    (hk : fr[i.ltx.endIdx - 1]? = i.frames[i.ltx.endIdx - 1]?) :
    verify { i with frames := fr } = verify i := by
  unfold verify lastPageMatch
  simp only [hl, hk, hs, beq_self_eq_true]
  -- `detectFull` also reads `frames` and is not preserved, but it sits in the `!saltMatch` arm, which `hs` makes dead
  simp

/-- Witness: position 3 in generation 1 (pages 2,3,4 replicated); rolled back to one frame and
    rewritten with a different page 3 and the same page 4, then page 5.  verify continues at 3;
    the replica keeps the old page 3. -/
def rbOld : List (Nat × Nat) := [(2, 10), (3, 11), (4, 12)]
def rbNew : List Gen := [⟨1, [(2, 10), (3, 99), (4, 12), (5, 50)]⟩]
def rbIn : VIn := ⟨false, ⟨1, 3, rbOld⟩, 1, overlay rbNew, false, true, false⟩

theorem rollback_identical_last_frame_undetected :
    (verify rbIn).snapshot = false ∧ (verify rbIn).idx = 3 ∧
    writeAll (writeAll (fun _ => 0) rbOld) (continued rbNew (verify rbIn).idx 1) 3 ≠ source rbNew 3 := by decide

/-! a world where start-up continues incrementally and one where it snapshots. -/
example : afterSync [⟨1, [(2, 10), (3, 11), (4, 12), (5, 99)]⟩] 0 3
    (verify ⟨false, ⟨1, 3, [(2, 10), (3, 11), (4, 12)]⟩, 1, [⟨1, 2, 10⟩, ⟨1, 3, 11⟩, ⟨1, 4, 12⟩, ⟨1, 5, 99⟩], false, true, false⟩) 1 1 5 = 99 := by decide
example : (verify f2In).snapshot = true ∧ afterSync f2World 0 3 (verify f2In) 2 1 5 = 99 := by decide

end C04
end Litestream
