import Litestream.Lemmas.V3
/-! # C19 — Legacy 0.3.x backups restore to the right state or fail

Model: `Litestream.Model.V3` (replica.go RestoreV3, findBestSnapshotV3, filterWALSegmentsV3,
applyWALSegmentsV3, shouldUseV3Restore, TimeBoundsV3). The theorems are about which snapshot
and which WAL segments the restore uses and when it must fail; that a reconstructed WAL file
is applied correctly is SQLite's business (trusted) and checked end-to-end by the engine. -/
namespace Litestream.C19
open Litestream.V3

/-- The snapshot chosen is, over all generations, a newest eligible one; none only when none is eligible. -/
theorem v3_snapshot_choice (snaps : List Snap) (T : Nat) :
    (∀ s, findBestSnapshot (exSort snaps) T = some s →
      s ∈ snaps ∧ eligible T s = true ∧ ∀ a ∈ snaps, eligible T a = true → a.created ≤ s.created) ∧
    (findBestSnapshot (exSort snaps) T = none ↔ ∀ a ∈ snaps, eligible T a = false) := by
  simp only [findBestSnapshot, lastSat_eq]
  refine ⟨fun s h => ?_, by simp [exSort_mem]⟩
  obtain ⟨hm, hp, hmax⟩ := getLast?_filter_eq_some (exSort_sorted snaps) h
  refine ⟨exSort_mem.1 hm, hp, fun a ha hpa => ?_⟩
  rcases hmax a (exSort_mem.2 ha) hpa with rfl | hle
  · exact Nat.le_refl _
  · exact hle

theorem v3_snapshot_choice_iff (snaps : List Snap) (T : Nat)
    (hdist : ∀ a ∈ snaps, ∀ b ∈ snaps, a.created = b.created → a = b) (s : Snap) :
    findBestSnapshot (exSort snaps) T = some s ↔
      s ∈ snaps ∧ eligible T s = true ∧ ∀ a ∈ snaps, eligible T a = true → a.created ≤ s.created := by
  obtain ⟨hsome, hnone⟩ := v3_snapshot_choice snaps T
  refine ⟨hsome s, fun ⟨hm, he, hmax⟩ => ?_⟩
  cases hr : findBestSnapshot (exSort snaps) T with
  | none => rw [hnone.1 hr s hm] at he; cases he
  | some s' =>
    obtain ⟨hm', he', hmax'⟩ := hsome s' hr
    rw [hdist s' hm' s hm (Nat.le_antisymm (hmax s' hm' he') (hmax' s hm he))]

/-- The choice does not depend on the order in which generations are listed. (RestoreV3 must therefore
sort the *combined* list: the generation listing is ordered by random IDs, not by time.) With equal creation
times the exchange sort may break the tie differently; the created time of the choice is still the same. -/
theorem v3_snapshot_choice_perm (l1 l2 : List Snap) (T : Nat)
    (hmem : ∀ a, a ∈ l1 ↔ a ∈ l2)
    (hdist : ∀ a ∈ l1, ∀ b ∈ l1, a.created = b.created → a = b) :
    findBestSnapshot (exSort l1) T = findBestSnapshot (exSort l2) T := by
  refine Option.ext fun s => ?_
  rw [v3_snapshot_choice_iff l1 T hdist, v3_snapshot_choice_iff l2 T (by simpa only [hmem] using hdist)]
  simp only [hmem]

theorem v3_snapshot_choice_perm' (l1 l2 : List Snap) (T : Nat) (hp : l1.Perm l2)
    (hdist : ∀ a ∈ l1, ∀ b ∈ l1, a.created = b.created → a = b) :
    findBestSnapshot (exSort l1) T = findBestSnapshot (exSort l2) T :=
  v3_snapshot_choice_perm l1 l2 T (fun _ => hp.mem_iff) hdist

theorem eligible_iff (T : Nat) (s : Snap) : eligible T s = true ↔ (T = 0 ∨ s.created ≤ T) := by
  simp [eligible]

/-- Full strength since the repair of finding F10: whenever
`applyWALSegmentsV3` succeeds, the segments it appended are exactly WAL files `snap.index,
snap.index+1, …`, each built from segments of *that* index at offsets `0, s₁, s₁+s₂, …`. -/
def OkContiguousFull : Prop :=
  ∀ (idx : Nat) (segs : List Seg), okB (applySegs idx segs) = true → contigB idx none segs = true

theorem v3_ok_contiguous : OkContiguousFull := fun idx segs hok => okB_applySegs idx segs ▸ hok

/-- `_hH` is not needed -/
theorem v3_ok_contiguous_partial (idx : Nat) (segs : List Seg) (_hH : noStrayOffset segs = true)
    (hok : okB (applySegs idx segs) = true) : contigB idx none segs = true := v3_ok_contiguous idx segs hok

/-- Every gap that is visible inside the listing (wrong index at offset 0, a continuation segment of
another index, an offset not equal to the bytes so far) is an error. -/
theorem v3_gap_errors (idx : Nat) (segs : List Seg)
    (hgap : contigB idx none segs = false) : ∃ e, applySegs idx segs = .error e := by
  have h := okB_applySegs idx segs
  rw [hgap] at h
  cases hr : applySegs idx segs with
  | error e => exact ⟨e, rfl⟩
  | ok g => rw [hr] at h; cases h

/-- Witness of F10 (repaired in /repo): snapshot 5, segment 5/0 of 4152 bytes, segment 6/0 missing,
segment 6/4152 present. The code before the repair appended 6/4152 to WAL 5 … -/
def f10Segs : List Seg := [⟨0, 5, 0, 4152, 10⟩, ⟨0, 6, 4152, 4120, 20⟩]

theorem f10_old_code_applied : okB (applyLoopBeforeFix ⟨5, 0, []⟩ f10Segs) = true := by decide

/-- … the repaired code reports the missing index. -/
theorem f10_repaired_rejects : applySegs 5 f10Segs = .error .missingIndex := by decide

/-- FULL-STRENGTH statement of "a missing segment produces an error": take any contiguous listing,
remove any one segment other than the last; the restore must fail. It is FALSE of model and code
in exactly two ways, both reproduced on the real code by the engine:
* F10 (`C19/nonzero-offset-index-unchecked`): `(i,0)` removed and the next segment `(i,s)` starts at
  `s` = bytes of WAL `i-1` — appended to WAL `i-1` because the index is only checked at offset 0;
* F11 (`C19/missing-index-tail-undetected`): the *last* segment of WAL `i` removed while `(i+1,0)`
  exists — the listing carries no length of a WAL file, so the loss cannot be seen.
`v3_gap_errors` above is the part that holds (F10 is repaired). The general "erase one segment" theorem under
the complement of both signatures is not proved (only tested by the engine). -/
def GapErrorsFull : Prop :=
  ∀ (idx : Nat) (orig : List Seg) (s : Seg), contigB idx none orig = true → s ∈ orig →
    orig.getLast? ≠ some s → okB (applySegs idx (orig.erase s)) = false

def f11Orig : List Seg := [⟨0, 5, 0, 4152, 10⟩, ⟨0, 5, 4152, 4120, 20⟩, ⟨0, 6, 0, 4152, 30⟩]
def f10Orig : List Seg := [⟨0, 5, 0, 4152, 10⟩, ⟨0, 6, 0, 4152, 15⟩, ⟨0, 6, 4152, 4120, 20⟩]

/-- F10's erase pattern is now an error (repaired). -/
theorem v3_gap_f10_pattern_errors : okB (applySegs 5 (f10Orig.erase ⟨0, 6, 0, 4152, 15⟩)) = false := by decide

theorem v3_gap_errors_full_false_f11 : ¬ GapErrorsFull := by
  intro h
  have := h 5 f11Orig ⟨0, 5, 4152, 4120, 20⟩ (by decide) (by decide) (by decide)
  exact absurd this (by decide)

theorem v3_contiguous_ok (idx : Nat) (segs : List Seg) (hc : contigB idx none segs = true) :
    okB (applySegs idx segs) = true := (okB_applySegs idx segs).trans hc

theorem v3_filter_spec (segs : List Seg) (idx T : Nat) (s : Seg) :
    s ∈ filterSegs segs idx T ↔ s ∈ segs ∧ idx ≤ s.index ∧ (T = 0 ∨ s.created ≤ T) := by
  simp [filterSegs]

/-- The left side is the `T ≠ 0` arm of `shouldUseV3`, word for word as `unfold` leaves it. -/
theorem arbitrate_at (snaps : List Snap) (ltxSnaps : List Nat) (T : Nat) (hT : T ≠ 0) (hs : SortedN ltxSnaps) :
    (match findBestSnapshot (exSort snaps) T, lastBefore T ltxSnaps with
      | some _, none => true
      | some v, some l => decide (v.created > l)
      | none, _ => false) = true ↔
    ∃ s ∈ snaps, s.created ≤ T ∧ ∀ u ∈ ltxSnaps, u < T → u < s.created := by
  have helig : ∀ a : Snap, eligible T a = true ↔ a.created ≤ T := fun a => (eligible_iff T a).trans (or_iff_right hT)
  obtain ⟨hsome, hnone⟩ := v3_snapshot_choice snaps T
  -- right to left, under `∃ s`: "every listed `u < T` is below `s.created`" becomes "what `lastBefore T` finds is"
  simp only [← lastBefore_lt_iff hs]
  cases hb : findBestSnapshot (exSort snaps) T with
  | none =>
    simp only [Bool.false_eq_true, false_iff]
    rintro ⟨s, hs1, hs2, _⟩
    have := hnone.1 hb s hs1
    rw [(helig s).2 hs2] at this
    cases this
  | some v =>
    obtain ⟨hvm, hve, hvmax⟩ := hsome v hb
    cases lastBefore T ltxSnaps with
    | none => simpa using ⟨v, hvm, (helig v).1 hve⟩
    | some m =>
      simp only [Option.some.injEq, forall_eq', decide_eq_true_eq, gt_iff_lt]
      exact ⟨fun h => ⟨v, hvm, (helig v).1 hve, h⟩,
        fun ⟨s, hs1, hs2, h⟩ => Nat.lt_of_lt_of_le h (hvmax s hs1 ((helig s).2 hs2))⟩

/-- "The legacy format holds the more recent eligible backup" (C19). -/
def FormatSpec (snaps : List Snap) (segs : List Seg) (ltxAll ltxSnaps : List Nat) (T : Nat) : Prop :=
  (∃ t ∈ v3Times snaps segs, 0 < t) ∧
  ((∀ u ∈ ltxAll, u = 0) ∨
    (if T = 0 then ∃ t ∈ v3Times snaps segs, ∀ u ∈ ltxAll, u < t
     else ∃ s ∈ snaps, s.created ≤ T ∧ ∀ u ∈ ltxSnaps, u < T → u < s.created))

theorem v3_format_choice (snaps : List Snap) (segs : List Seg) (ltxAll ltxSnaps : List Nat) (T : Nat)
    (hs : SortedN ltxSnaps) :
    shouldUseV3 snaps segs ltxAll ltxSnaps T = true ↔ FormatSpec snaps segs ltxAll ltxSnaps T := by
  have hpos : (∃ t ∈ v3Times snaps segs, 0 < t) ↔ maxTime (v3Times snaps segs) ≠ 0 := by
    rw [← lt_maxTime_iff]; omega
  unfold shouldUseV3 FormatSpec
  simp only [v3UpdatedAt_eq, hpos, ← maxTime_eq_zero_iff]
  by_cases hv : maxTime (v3Times snaps segs) = 0
  · simp [hv]
  by_cases hl : maxTime ltxAll = 0
  · simp [hv, hl]
  by_cases hT : T = 0
  · simp only [hv, hl, hT, if_false, if_true, ne_eq, not_true_eq_false, not_false_eq_true, true_and, false_or,
      decide_eq_true_eq, gt_iff_lt, lt_maxTime_iff]
    -- some current-format file has a positive time, so a `t` above all of them is positive
    obtain ⟨u, hu, h0⟩ := lt_maxTime_iff.1 (Nat.pos_of_ne_zero hl)
    exact exists_congr fun t => and_congr_right fun _ =>
      ⟨fun h => (maxTime_lt_iff (by omega)).1 h, fun h => (maxTime_lt_iff (by have := h u hu; omega)).2 h⟩
  · simp only [hv, hl, hT, if_false, if_true, ne_eq, not_false_eq_true, true_and, false_or]
    exact arbitrate_at snaps ltxSnaps T hT hs


def exSnaps : List Snap := [⟨0, 0, 100⟩, ⟨0, 2, 300⟩, ⟨1, 0, 500⟩, ⟨1, 1, 500⟩]
def exSegs : List Seg :=
  [⟨0, 0, 0, 4152, 110⟩, ⟨0, 0, 4152, 8240, 120⟩, ⟨0, 1, 0, 4152, 210⟩, ⟨0, 2, 0, 4152, 310⟩, ⟨0, 2, 4152, 4120, 320⟩,
   ⟨1, 0, 0, 4152, 510⟩]

example : restorePlan exSnaps exSegs 0 = .ok (⟨1, 1, 500⟩, []) := by decide
example : restorePlan exSnaps exSegs 315 = .ok (⟨0, 2, 300⟩, [(2, [⟨0, 2, 0, 4152, 310⟩])]) := by decide
example : restorePlan exSnaps exSegs 250 =
    .ok (⟨0, 0, 100⟩, [(0, [⟨0, 0, 0, 4152, 110⟩, ⟨0, 0, 4152, 8240, 120⟩]), (1, [⟨0, 1, 0, 4152, 210⟩])]) := by decide
example : restorePlan exSnaps exSegs 50 = .error .noSnapshots := by decide
/-- listing the newer generation first (its ID sorts first) changes nothing -/
def exPermSnaps : List Snap := [⟨0, 0, 500⟩, ⟨0, 1, 600⟩, ⟨1, 0, 100⟩, ⟨1, 2, 300⟩]
example : restorePlan exPermSnaps [] 0 = .ok (⟨0, 1, 600⟩, []) := by decide
example : restorePlan exPermSnaps [] 550 = .ok (⟨0, 0, 500⟩, []) := by decide
example : restorePlan exPermSnaps [] 499 = .ok (⟨1, 2, 300⟩, []) := by decide
/-- removing 1/0 from generation 0 is reported -/
example : restorePlan [⟨0, 0, 100⟩] (exSegs.filter (· ≠ ⟨0, 1, 0, 4152, 210⟩)) 0 = .error .missingIndex := by decide
/-- removing 0/4152 is reported -/
example : restorePlan [⟨0, 0, 100⟩] [⟨0, 0, 0, 4152, 110⟩, ⟨0, 0, 12392, 4120, 130⟩] 0 = .error .missingSegment := by decide
example : noStrayOffset exSegs = true ∧ contigB 0 none (exSegs.filter (·.gen == 0)) = true := by decide
example : noStrayOffset f10Segs = false := by decide
/-- legacy newer than current format without timestamp; current-format snapshot newer before T=250 -/
example : shouldUseV3 exSnaps exSegs [50, 200, 400] [50, 200] 0 = true ∧ shouldUseV3 exSnaps exSegs [50, 200, 400] [50, 200] 250 = false ∧
    shouldUseV3 exSnaps exSegs [50, 200, 400] [50, 200] 150 = true := by decide

end Litestream.C19
