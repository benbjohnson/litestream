import Litestream.Model.Sidecar
import Litestream.Lemmas.V3Name
/-! C16 — the sidecar that carries a follower's position across restarts.  `Props/C16.lean` models
the sidecar as a number; these theorems say that the file content does denote that number: what
`WriteTXIDFile` writes reads back as the same TXID (every 64-bit value), and a torn content is an error,
never a smaller TXID.  Tie: (C) stream `sidecar` of engine c16. -/
namespace Litestream.C16
open Litestream.V3Name Litestream.LtxName Litestream.Sidecar

theorem parseHexAny_hexFixed (w n : Nat) : parseHexAny (hexFixed w n) = some (n % 16 ^ w) :=
  foldl_digits_hexFixed hexValAny (fun d h => by simp [hexValAny, hexVal_hexChar d h]) w n

theorem not_space_of_hex {c : Char} (h : isHex c = true) : isSpace c = false := by
  -- the code of a hex digit is at least 48, that of a space at most 32
  have hc : 48 ≤ c.toNat := Nat.le_of_not_lt fun hlt => by
    simp [isHex, hexVal, show ¬ 48 ≤ c.toNat by omega, show ¬ 97 ≤ c.toNat by omega] at h
  simp only [isSpace, Bool.or_eq_false_iff, decide_eq_false_iff_not, Bool.and_eq_false_imp, decide_eq_true_eq]
  omega

theorem trim_hex_nl (xs : List Char) (hall : xs.all isHex = true) (hne : xs ≠ []) :
    trim (xs ++ ['\n']) = xs := by
  have keep : ∀ ys : List Char, ys.all isHex = true → ys ≠ [] → ∀ zs, (ys ++ zs).dropWhile isSpace = ys ++ zs := by
    intro ys hy hne zs
    cases ys with
    | nil => exact absurd rfl hne
    | cons y ys => simp [not_space_of_hex (List.all_eq_true.1 hy y (by simp))]
  have h2 := keep xs.reverse (by simpa using hall) (by simpa using hne) []
  rw [List.append_nil] at h2
  rw [trim, keep xs hall hne, List.reverse_append, List.reverse_singleton, List.singleton_append,
    List.dropWhile_cons_of_pos (by decide), h2, List.reverse_reverse]

theorem sidecar_roundtrip (t : Nat) (h : t < 2 ^ 64) : readSidecar (some (sidecarText t)) = some t := by
  have hl : (fmt16 t).length = 16 := hexFixed_length 16 t
  have hne : fmt16 t ≠ [] := fun h0 => by rw [h0] at hl; exact absurd hl (by decide)
  show parseTXID (trim (sidecarText t)) = some t
  rw [sidecarText, trim_hex_nl (fmt16 t) (hexFixed_all 16 t) hne, parseTXID, if_pos hl, fmt16, parseHexAny_hexFixed,
    Nat.mod_eq_of_lt (by omega)]

/-- A missing sidecar reads as TXID 0 — and so does a sidecar holding 0: the two are not
distinguished (follow refuses both when the database file exists, `noSidecar`). -/
theorem sidecar_missing_is_zero : readSidecar none = some 0 ∧ readSidecar (some (sidecarText 0)) = readSidecar none :=
  ⟨rfl, sidecar_roundtrip 0 (by decide)⟩

theorem trim_length_le (s : List Char) : (trim s).length ≤ s.length := by
  unfold trim
  rw [List.length_reverse]
  have h1 := (List.dropWhile_sublist isSpace (l := (s.dropWhile isSpace).reverse)).length_le
  have h2 := (List.dropWhile_sublist isSpace (l := s)).length_le
  rw [List.length_reverse] at h1
  omega

theorem sidecar_short_rejected (s : List Char) (h : s.length < 16) : readSidecar (some s) = none := by
  have := trim_length_le s
  show parseTXID (trim s) = none
  rw [parseTXID, if_neg (by omega)]

theorem sidecar_prefix_rejected (t k : Nat) (hk : k < 16) : readSidecar (some ((sidecarText t).take k)) = none :=
  sidecar_short_rejected _ (by simp [List.length_take]; omega)

/-- upper case and surrounding blanks are accepted, 17 digits are not. -/
example : readSidecar (some "00000000000000ff\n".toList) = some 255 := by decide
example : readSidecar (some "  00000000000000FF\r\n\n".toList) = some 255 := by decide
example : readSidecar (some "000000000000000ff\n".toList) = none := by decide
example : readSidecar (some "00000000000000f\n".toList) = none := by decide
example : sidecarText 255 = "00000000000000ff\n".toList := by decide

end Litestream.C16
