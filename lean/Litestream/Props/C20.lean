import Litestream.Lemmas.Lease
import Litestream.Gen.Lease
/-! # C20 — At most one instance holds an unexpired replica lease

Model: `Litestream.Model.Lease` (s3/leaser.go against an S3-like conditional store).
All theorems quantify over every reachable state: any number of instances (client indices), ANY
assignment of owner strings to instances (`State.label`: shared or empty `Owner`s allowed), any list
of labels (= any interleaving at the granularity of single S3 requests, with clock ticks anywhere),
any pre-seeded record — under the side condition `FreshRun` (see `FreshStep`), which is a theorem when
owner strings are distinct (`reachable_of_injective`). "Holder", "superseded", "from one owner to the
next" are statements about instances, never about the owner string. -/
namespace Litestream.C20
open Litestream.Lease

/-- Disabled labels stutter, so every label list is a schedule. -/
def Reachable (s : State) : Prop :=
  ∃ store label ls, FreshRun (initState store label) ls ∧ s = run (initState store label) ls

theorem reachable_inv {s : State} (h : Reachable s) : Inv s := by
  obtain ⟨store, label, ls, hf, rfl⟩ := h
  exact inv_run _ _ (inv_init store label) hf

theorem reachable_step {s : State} (h : Reachable s) (l : Label) (hf : FreshStep s l) : Reachable (step s l).1 := by
  obtain ⟨store, label, ls, hfr, rfl⟩ := h
  exact ⟨store, label, ls ++ [l], (freshRun_append ..).2 ⟨hfr, hf, trivial⟩, (run_append _ ls [l]).symm⟩

theorem reachable_of_injective (store : Option Rec) (label : Nat → Nat) (hinj : ∀ a b, label a = label b → a = b)
    (ls : List Label) : Reachable (run (initState store label) ls) :=
  ⟨store, label, ls, freshRun_of_injective _ ls (inv_init store label) hinj, rfl⟩

theorem lease_mutex (s : State) (h : Reachable s) (a b : Nat) (hab : a ≠ b) :
    ¬ (holds s a ∧ holds s b) := by
  intro ⟨⟨la, hla, haa, hea⟩, ⟨lb, hlb, hab', heb⟩⟩
  have inv := reachable_inv h
  -- an active unexpired lease is the stored record: both are, and no two instances have the same record in hand
  have hsa : s.store = some la.body := (inv.lease_live a la hla haa).resolve_right (by omega)
  have hsb : s.store = some lb.body := (inv.lease_live b lb hlb hab').resolve_right (by omega)
  exact inv.lease_unique a b la lb hab hla hlb (Option.some.inj (hsa.symm.trans hsb))

/-- An acquire by `b` succeeds at time `τ = s.now` only if there was no lease at all, or the last
store mutation was a release, or the lease being replaced expired strictly before `τ`. -/
theorem second_acquire_after (s : State) (h : Reachable s) (b : Nat) (m : Missing) (req : Option ReqOut) (l : Lease)
    (hok : (step s (.acquirePut b m)).2 = .did req (some (.ok l))) :
    ((s.store = none ∧ (s.hist = [] ∨ ∃ rest, s.hist = .deleted :: rest)) ∨
      (∃ w r rest, s.store = some r ∧ s.hist = .wrote w r :: rest ∧ r.exp < s.now)) ∧
    (step s (.acquirePut b m)).1.hist = .wrote (some b) l.body :: s.hist ∧ l.body.owner = s.label b := by
  have inv := reachable_inv h
  dsimp only [step, stepAcquirePut] at hok ⊢
  split at hok
  next new cond hpc =>
    split at hok
    next hout =>  -- the write went through
      cases hok
      refine ⟨?_, by simp, (inv.pc_put b new cond hpc).1⟩
      have hexp := inv.acquirePut_ok hpc (writeLeaseOutcome_ok.1 hout)
      have hs := inv.hist_store
      match hh : s.hist with
      | [] => rw [hh] at hs; exact .inl ⟨hs, .inl rfl⟩
      | .deleted :: rest => rw [hh] at hs; exact .inl ⟨hs, .inr ⟨rest, rfl⟩⟩
      | .wrote w r :: rest => rw [hh] at hs; exact .inr ⟨w, r, rest, hs, rfl, (hexp r hs).1⟩
    · simp at hok  -- 412: no result yet
    · simp at hok  -- other error
  · simp at hok

def Superseded (s : State) (a : Nat) (l : Lease) : Prop :=
  (s.clients a).lease = some l ∧ s.store ≠ some l.body

/-- A superseded client's renew fails (`ErrLeaseNotHeld`, or the wrapped 404 when the object is
gone) and its release fails (`ErrLeaseNotHeld` / `ErrLeaseAlreadyReleased`); neither changes anything. -/
theorem taken_over_cannot (s : State) (h : Reachable s) (a : Nat) (l : Lease) (hs : Superseded s a l)
    (ttl : Int) (m : Missing) :
    ((step s (.renew a ttl m)).1 = s ∧
      ∀ req res, (step s (.renew a ttl m)).2 = .did req (some res) →
        (res = .notHeld ∨ res = .otherErr) ∧ (s.store ≠ none → res = .notHeld)) ∧
    ((step s (.release a m)).1 = s ∧
      ∀ req res, (step s (.release a m)).2 = .did req (some res) →
        (res = .notHeld ∨ res = .alreadyReleased) ∧ (s.store ≠ none → res = .notHeld)) := by
  have inv := reachable_inv h
  obtain ⟨hl, hne⟩ := hs
  constructor
  · have hnf := s3Put_notFound s.store (writeLeaseCond (some l.etag)) ⟨l.body.gen, s.now + ttl, s.label a⟩ m
    simp only [step, stepRenew, hl]
    split
    · split
      · next hok => exact absurd ((inv.renew_ok_iff hl _ m).1 hok) hne  -- accepted: only over `l.body`
      · next hfail =>  -- refused
        refine ⟨rfl, fun req res hout => ?_⟩
        cases hout
        exact (renewResult_fail hfail).imp_right fun h hsn => h fun hr => hsn (hnf hr)
    · exact ⟨rfl, fun _ _ h => nomatch h⟩  -- not idle
  · have hnf := s3Put_notFound s.store (.ifMatch l.etag) l.body m
    rw [← s3Delete_resp] at hnf
    simp only [step, stepRelease, hl]
    split
    · split
      · next hok => exact absurd ((inv.release_ok_iff hl m).1 hok) hne  -- accepted: only over `l.body`
      · next hfail =>  -- refused
        refine ⟨rfl, fun req res hout => ?_⟩
        cases hout
        exact (releaseResult_fail hfail).imp_right fun h hsn => h fun hr => hsn (hnf hr)
    · exact ⟨rfl, fun _ _ h => nomatch h⟩  -- not idle

/-- Along takeovers with no release in between, the generation never decreases and strictly
increases whenever the writing *instance* changes (`genPartial`, as a Bool over the ghost history;
the pre-seeded record of an unknown earlier incarnation only counts for "never decreases"). -/
theorem generation_increases_partial (s : State) (h : Reachable s) : genPartial s.hist = true :=
  (reachable_inv h).hist_gen

def evOf (p : Option Nat × Rec) : Ev := .wrote p.1 p.2

/-- What `genPartial` says, spelled out. -/
theorem generation_increases_partial_spec (s : State) (h : Reachable s)
    (pre : List Ev) (w2 : Option Nat) (r2 : Rec) (mid : List (Option Nat × Rec)) (w1 : Nat) (r1 : Rec) (post : List Ev)
    (hh : s.hist = pre ++ .wrote w2 r2 :: (mid.map evOf ++ .wrote (some w1) r1 :: post))
    (hown : some w1 ≠ w2) : r1.gen < r2.gen :=
  ((genPartial_ordered (hh ▸ generation_increases_partial s h)).2.resolve_left hown).resolve_left nofun

/-- FULL-STRENGTH statement of the property text ("the lease generation strictly increases from
one owner to the next"), releases or not. It is FALSE of model and code (finding F9). -/
def GenerationIncreasesFull : Prop := ∀ s, Reachable s → genFull s.hist = true

/-- Witness of F9: A acquires (generation 1), A releases, B acquires — generation 1 again. -/
def f9Schedule : List Label :=
  [.acquireGet 0, .acquireDecide 0 100, .acquirePut 0 .as404, .release 0 .as404,
   .acquireGet 1, .acquireDecide 1 100, .acquirePut 1 .as404]

theorem f9_history :
    (run (initState none id) f9Schedule).hist =
      [.wrote (some 1) ⟨1, 100, 1⟩, .deleted, .wrote (some 0) ⟨1, 100, 0⟩] := by decide

theorem generation_increases_full_false : ¬ GenerationIncreasesFull := by
  intro h
  have := h _ (reachable_of_injective none id (fun _ _ h => h) f9Schedule)
  rw [f9_history] at this
  exact absurd this (by decide)

/-! ### Tie (T): request shapes and mappings regenerated from s3/leaser.go -/

/-- Interpret the header assignments of writeLease as a model condition. -/
def condOfHeaders (hs : List (String × String)) (etag : Option ETag) : Option Cond :=
  match hs, etag with
  | [("IfNoneMatch", "\"*\"")], _ => some .ifNoneMatchStar
  | [("IfMatch", "etag")], some e => some (.ifMatch e)
  | _, _ => none

/-- writeLease sets `If-None-Match: *` exactly when the etag is empty, else `If-Match: <etag>`,
and the literal itself carries no conditional header. -/
theorem gen_writeLease_cond (etag : Option ETag) :
    condOfHeaders (Gen.Lease.writeLeaseHeaders etag.isNone) etag = some (writeLeaseCond etag) ∧
    Gen.Lease.putLiteralCondFields = [] := by
  cases etag <;> exact ⟨rfl, rfl⟩

/-- AcquireLease passes the etag it read on to writeLease; RenewLease passes the held lease's. -/
theorem gen_etag_flow :
    Gen.Lease.acquireReadVars = ["existing", "etag"] ∧ Gen.Lease.acquireWriteArgs = "newLease,etag" ∧
    Gen.Lease.renewWriteArgs = "newLease,lease.ETag" := ⟨rfl, rfl, rfl⟩

/-- AcquireLease hands a lease back in exactly one place: after its own conditional write
succeeded (`newLease`, the record it just wrote) — never a record it merely read. -/
theorem gen_acquire_success_only_own_write : Gen.Lease.acquireSuccessReturns = ["newLease,nil"] := rfl

/-- ReleaseLease deletes conditionally on the held lease's ETag. -/
theorem gen_release_cond : ("IfMatch", "aws.String(lease.ETag)") ∈ Gen.Lease.deleteInputFields := by decide

theorem gen_acquireGeneration_eq (e : Option Nat) : Gen.Lease.acquireGeneration e = acquireGeneration e := by
  -- first arm: the regenerated function is the model's word for word; second arm: it is the same function
  -- written differently (a rewrite of the Go expression)
  first
  | rfl
  | (cases e <;> simp [Gen.Lease.acquireGeneration, acquireGeneration] <;> omega)

theorem gen_lease_fields :
    Gen.Lease.acquireLeaseFields = [("Generation", "generation"), ("ExpiresAt", "time.Now().Add(l.TTL)"), ("Owner", "l.Owner")] ∧
    Gen.Lease.renewLeaseFields = [("Generation", "lease.Generation"), ("ExpiresAt", "time.Now().Add(l.TTL)"), ("Owner", "l.Owner")] :=
  ⟨rfl, rfl⟩

theorem gen_isExpired_eq (now : Int) (r : Rec) : Gen.Lease.isExpired now r.exp = isExpired now r := by
  -- second arm: as in `gen_acquireGeneration_eq`
  first
  | rfl
  | (simp [Gen.Lease.isExpired, isExpired] <;> omega)

/-- The expiry guard of AcquireLease is the one of `acquireDecide`. -/
theorem gen_acquireBlocked (now ttl : Int) (c : Nat) (r : Rec) (e : ETag) :
    (Gen.Lease.acquireBlocked true (Gen.Lease.isExpired now r.exp) = true ↔
      acquireDecide now ttl c (some (r, e)) = .inl (.leaseExists (some r.owner))) ∧
    Gen.Lease.acquireBlocked false true = false ∧ Gen.Lease.acquireBlocked false false = false := by
  refine ⟨?_, by decide, by decide⟩
  rw [gen_isExpired_eq]
  cases hx : isExpired now r <;> simp [Gen.Lease.acquireBlocked, acquireDecide, hx]

theorem gen_error_mapping :
    (Gen.Lease.writeLeaseErr true = "LeaseExistsError" ∧ writeLeaseOutcome .precond = .leaseExists) ∧
    (Gen.Lease.writeLeaseErr false = "wrapped" ∧ writeLeaseOutcome .notFound = .other) ∧
    (Gen.Lease.renewErr true = "ErrLeaseNotHeld" ∧ Gen.Lease.renewErr false = "passthrough") ∧
    (Gen.Lease.releaseErr true false = "ErrLeaseAlreadyReleased" ∧ releaseResult .notFound = .alreadyReleased) ∧
    (Gen.Lease.releaseErr false true = "ErrLeaseNotHeld" ∧ releaseResult .precond = .notHeld) ∧
    Gen.Lease.releaseErr false false = "wrapped" ∧
    "PreconditionFailed" ∈ Gen.Lease.isPreconditionFailedCodes ∧ "NoSuchKey" ∈ Gen.Lease.isNotFoundErrorCodes ∧
    "NoSuchKey" ∉ Gen.Lease.isPreconditionFailedCodes ∧ "PreconditionFailed" ∉ Gen.Lease.isNotFoundErrorCodes ∧
    "PreconditionFailed" ∉ Gen.Lease.isNotExistsCodes := by
  refine ⟨⟨rfl, rfl⟩, ⟨rfl, rfl⟩, ⟨rfl, rfl⟩, ⟨rfl, rfl⟩, ⟨rfl, rfl⟩, rfl, ?_⟩
  decide

def exTakeover : List Label :=
  [.acquireGet 0, .acquireDecide 0 5, .acquirePut 0 .as404, .tick 7,
   .acquireGet 1, .acquireDecide 1 100, .acquirePut 1 .as404]

example : holdsB (run (initState none id) (exTakeover.take 3)) 0 = true := by decide
example : holdsB (run (initState none id) exTakeover) 1 = true ∧ holdsB (run (initState none id) exTakeover) 0 = false := by decide
example : (run (initState none id) exTakeover).hist = [.wrote (some 1) ⟨2, 107, 1⟩, .wrote (some 0) ⟨1, 5, 0⟩] := by decide
example : Superseded (run (initState none id) exTakeover) 0 ⟨⟨1, 5, 0⟩, ⟨1, 5, 0⟩⟩ := by
  constructor <;> decide
example : (step (run (initState none id) exTakeover) (.renew 0 100 .as404)).2
    = .did (some (.put (.ifMatch ⟨1, 5, 0⟩) ⟨1, 107, 0⟩ .precond)) (some .notHeld) := by decide
/-- a live lease blocks a second acquire -/
example : (step (run (initState none id) ([.acquireGet 0, .acquireDecide 0 50, .acquirePut 0 .as404, .acquireGet 1])) (.acquireDecide 1 50)).2
    = .did none (some (.leaseExists (some 0))) := by decide
/-- the race: both read "absent", the second `If-None-Match: *` write loses -/
example : (step (run (initState none id) [.acquireGet 0, .acquireGet 1, .acquireDecide 0 50, .acquireDecide 1 50, .acquirePut 0 .as404]) (.acquirePut 1 .as404)).2
    = .did (some (.put .ifNoneMatchStar ⟨1, 50, 1⟩ .precond)) none := by decide

/-- two instances with the SAME owner string (7) race on an absent lease: the loser of the
conditional write is refused and told who holds it; only instance 0 holds -/
def exSameOwner : List Label :=
  [.acquireGet 1, .acquireGet 0, .acquireDecide 0 50, .acquireDecide 1 50, .acquirePut 0 .as404, .acquirePut 1 .as404, .acquireReread 1]
example : (step (run (initState none (fun _ => 7)) (exSameOwner.take 6)) (.acquireReread 1)).2
    = .did (some (.get (some ⟨1, 50, 7⟩))) (some (.leaseExists (some 7))) := by decide
example : holdsB (run (initState none (fun _ => 7)) exSameOwner) 0 = true ∧
    holdsB (run (initState none (fun _ => 7)) exSameOwner) 1 = false := by decide

theorem holds_iff_holdsB (s : State) (c : Nat) : holds s c ↔ holdsB s c = true := by
  unfold holds holdsB
  cases (s.clients c).lease <;> simp

end Litestream.C20
