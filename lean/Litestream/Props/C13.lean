import Litestream.Model.Checkpoint
import Litestream.Gen.Checkpoint
/-!
# C13 — Checkpoint policy keeps the WAL bounded and an idle database silent

Theorems about `Ck.attempts` (the priority table of `checkpointIfNeeded`) and
about the idle loop `Ck.idleStep`.  The environment rule they rest on — with
no pinned application transaction a checkpoint completes and the sequence bump
restarts the WAL with one frame — is validated on real SQLite by engine c13.

Of the (T) ties at the end, those about translated functions keep a fallback that also proves a
semantically equal rewrite.
-/
namespace Litestream
namespace C13
open Ck

theorem calcWALSize_le_iff (ps : Nat) {a b : Nat} : calcWALSize ps a ≤ calcWALSize ps b ↔ a ≤ b := by
  unfold calcWALSize walFrameHeaderSize
  rw [Nat.add_le_add_iff_left, Nat.mul_le_mul_left_iff (by omega)]

theorem effTrunc_pos (c : Cfg) : 0 < effTrunc c := by
  unfold effTrunc defaultTruncatePageN
  split <;> omega

theorem exceedsTrunc_calc (c : Cfg) (hps : c.pageSize ≠ 0) (n : Nat) :
    exceedsTrunc c (calcWALSize c.pageSize n) = decide (effTrunc c ≤ n) := by
  simp [exceedsTrunc, hps, effTrunc_pos, calcWALSize_le_iff]

/-- If the size after the sync reaches the PASSIVE threshold, or the size before the sync the TRUNCATE
    threshold, `checkpointIfNeeded` issues a checkpoint — whatever the environment answers. -/
theorem threshold_forces_checkpoint (c : Cfg) (s : St) (i : In) (o1 o2 : Outcome) (hps : c.pageSize ≠ 0)
    (h : exceedsTrunc c i.orig = true ∨ i.new ≥ calcWALSize c.pageSize c.minCkpt) :
    attempts c s i o1 o2 ≠ [] := by
  unfold attempts
  rw [if_neg hps]
  cases ht : exceedsTrunc c i.orig
  · -- no truncate emergency: the size test on the new WAL size fires
    rw [ht] at h
    rw [if_neg Bool.false_ne_true, if_pos (h.resolve_left Bool.false_ne_true)]
    exact List.cons_ne_nil _ _
  · -- every branch of the truncate emergency attempts something
    rw [if_pos rfl]
    repeat' split
    all_goals exact List.cons_ne_nil _ _

/-- Issue #896: no time-based checkpoint without replicated data, whatever the interval and file age. -/
theorem no_time_checkpoint_without_data (c : Cfg) (s : St) (i : In) (o1 o2 : Outcome)
    (hs : s.syncedSince = false) (ht : exceedsTrunc c i.orig = false)
    (hm : i.new < calcWALSize c.pageSize c.minCkpt) : attempts c s i o1 o2 = [] := by
  simp [attempts, ht, Nat.not_le_of_gt hm, hs]

/-- Stated in frame counts: the time-based branch never fires, and the PASSIVE attempt of a truncate
    emergency restarts the WAL with the one bookkeeping frame, so TRUNCATE follows only where one
    frame still meets the threshold. -/
theorem idleAttempts_eq (c : Cfg) (s : Idle) (hps : c.pageSize ≠ 0) :
    idleAttempts c s =
      if effTrunc c ≤ s.frames then (if 1 < effTrunc c then [.passive] else [.passive, .truncate])
      else if c.minCkpt ≤ s.frames then [.passive] else [] := by
  simp [idleAttempts, attempts, hps, exceedsTrunc_calc, calcWALSize_le_iff]

theorem idleStep_quiet (c : Cfg) (s : Idle) (hps : c.pageSize ≠ 0)
    (h1 : s.frames < c.minCkpt) (h2 : s.frames < effTrunc c) : idleStep c s = s := by
  rw [idleStep, idleAttempts_eq c s hps, if_neg (by omega), if_neg (by omega)]

theorem idleStep_cases (c : Cfg) (s : Idle) :
    idleStep c s = s ∨ ((idleStep c s).frames = 1 ∧ (idleStep c s).files ≤ s.files + 2) := by
  unfold idleStep
  match idleAttempts c s with
  | [] => exact .inl rfl
  | [_] => exact .inr ⟨rfl, Nat.le_succ _⟩
  | _ :: _ :: _ => exact .inr ⟨rfl, Nat.le_refl _⟩

theorem idleIter_fixed (c : Cfg) {s : Idle} (h : idleStep c s = s) : ∀ k, idleIter c k s = s
  | 0 => rfl
  | k + 1 => by rw [idleIter, h]; exact idleIter_fixed c h k

/-- With both thresholds at least 2, repeated idle syncs create at most one further round of files and
    then none. -/
theorem idle_quiescent (c : Cfg) (s : Idle) (hps : c.pageSize ≠ 0) (hm : 2 ≤ c.minCkpt) (ht : 2 ≤ effTrunc c) :
    ∀ k, idleIter c (k + 1) s = idleStep c s := by
  intro k
  -- the first step leaves a state on which a second one does nothing
  refine idleIter_fixed c ?_ k
  rcases idleStep_cases c s with h | ⟨h, -⟩
  · rw [h, h]
  · exact idleStep_quiet c _ hps (by omega) (by omega)

theorem idle_files_bounded (c : Cfg) (s : Idle) (hps : c.pageSize ≠ 0) (hm : 2 ≤ c.minCkpt) (ht : 2 ≤ effTrunc c) (k : Nat) :
    (idleIter c k s).files ≤ s.files + 2 := by
  cases k with
  | zero => exact Nat.le_add_right _ _
  | succ k =>
    rw [idle_quiescent c s hps hm ht k]
    rcases idleStep_cases c s with h | ⟨-, h⟩
    · rw [h]; exact Nat.le_add_right _ _
    · exact h

/-- The full-strength statement is false (finding F4): the property
    quantifies over every configuration, but with `MinCheckpointPageN = 1` the
    bookkeeping frame alone meets the threshold, so every idle sync checkpoints
    and writes another file, forever. -/
theorem idle_not_quiescent_min1 (ps : Nat) (hps : ps ≠ 0) (tr : Nat) (htr : 2 ≤ tr) (f : Nat) (b : Bool) :
    ∀ k, (idleIter ⟨ps, 1, tr, 0⟩ k ⟨1, f, b⟩).files = f + k ∧ (idleIter ⟨ps, 1, tr, 0⟩ k ⟨1, f, b⟩).frames = 1 := by
  have he : effTrunc ⟨ps, 1, tr, 0⟩ = tr := if_neg (show ¬ tr = 0 by omega)
  have hstep : ∀ f b, idleStep ⟨ps, 1, tr, 0⟩ ⟨1, f, b⟩ = ⟨1, f + 1, false⟩ := by
    intro f b
    rw [idleStep, idleAttempts_eq _ _ hps, he, if_neg (show ¬ tr ≤ 1 by omega), if_pos (Nat.le_refl 1)]
  intro k
  induction k generalizing f b with
  | zero => exact ⟨rfl, rfl⟩
  | succ k ih =>
    rw [idleIter, hstep]
    have := ih (f + 1) false
    exact ⟨by rw [this.1]; omega, this.2⟩

/-- With `TruncatePageN = 1` every idle sync even makes two files. -/
example : (idleIter ⟨4096, 3, 1, 0⟩ 5 ⟨1, 3, false⟩).files = 13 := by decide

/-- WAL bound, decision level. If the thresholds are ordered
    (`minCkpt ≤ effTrunc`) and a sync leaves `n ≥ minCkpt` frames, a checkpoint
    is attempted; with no pinned transaction it completes and one frame is left. -/
theorem wal_bounded_decision (c : Cfg) (s : St) (i : In) (o1 o2 : Outcome) (hps : c.pageSize ≠ 0) (n : Nat)
    (hn : i.new = calcWALSize c.pageSize n) (hge : c.minCkpt ≤ n) : attempts c s i o1 o2 ≠ [] :=
  threshold_forces_checkpoint c s i o1 o2 hps (Or.inr (by rw [hn]; exact (calcWALSize_le_iff _).mpr hge))

/-- With inverted thresholds (`effTrunc < minCkpt`, finding: bound holds one sync
    late) a sync may leave `effTrunc ≤ n < minCkpt` frames without any attempt,
    because the truncate test looks at the size *before* the sync. -/
example : attempts ⟨4096, 20, 6, 0⟩ ⟨calcWALSize 4096 1, false, true⟩ ⟨calcWALSize 4096 1, calcWALSize 4096 8, false⟩ .busy .busy = [] := by
  decide

/-! ### (T) ties to the regenerated definitions -/

theorem gen_calcWALSize_eq (ps n : Nat) : Gen.Ck.calcWALSize ps n = calcWALSize ps n := by
  first
  | rfl
  | (unfold Gen.Ck.calcWALSize calcWALSize walHeaderSize walFrameHeaderSize; simp [Gen.Ck.walHeaderSize, Gen.Ck.walFrameHeaderSize]; try omega)

theorem gen_consts : Gen.Ck.defaultTruncatePageN = defaultTruncatePageN ∧ Gen.Ck.walHeaderSize = walHeaderSize ∧
    Gen.Ck.walFrameHeaderSize = walFrameHeaderSize ∧ Gen.Ck.defaultMinCheckpointPageN = 1000 := by decide

theorem gen_effTrunc_eq (t : Nat) : Gen.Ck.effectiveTruncatePageN t = effTrunc ⟨0, 0, t, 0⟩ := by
  first
  | rfl
  | (unfold Gen.Ck.effectiveTruncatePageN effTrunc; simp [Gen.Ck.defaultTruncatePageN, defaultTruncatePageN])

theorem gen_exceeds_eq (ps t w : Nat) :
    Gen.Ck.exceedsTruncateThreshold ps t w = exceedsTrunc ⟨ps, 0, t, 0⟩ w := by
  unfold Gen.Ck.exceedsTruncateThreshold exceedsTrunc
  rw [gen_effTrunc_eq]
  simp [effTrunc, gen_calcWALSize_eq]
  -- `simp` closes the goal for the text the translator prints; second arm: the fallback
  first | done | (split <;> simp <;> omega)

/-- Whenever `Sync`'s chunk loop stops after a chunk that copied something, the checkpoint decision was evaluated
    for that chunk — so `MaxSyncWALBytes` can delay the decision but never skip it at the end of a catch-up. -/
theorem chunked_sync_reaches_ckpt (synced limited syncedToWALEnd exceedsTruncate : Bool)
    (hexit : loopExit synced limited syncedToWALEnd = true) (hs : synced = true) :
    ckGate limited syncedToWALEnd exceedsTruncate = true := by
  -- once something was copied, the loop's exit condition is the gate's first two disjuncts
  subst hs
  unfold ckGate
  rw [show (!limited || syncedToWALEnd) = true from hexit]; rfl

/-- The truncate emergency is honoured even mid catch-up. -/
theorem truncate_gate_always_open (limited syncedToWALEnd : Bool) : ckGate limited syncedToWALEnd true = true := by
  cases limited <;> cases syncedToWALEnd <;> rfl

theorem gen_checkpointGate_eq : ∀ (a b c d : Bool), Gen.Ck.checkpointGate a b c d = ckGate b c d := by decide

theorem gen_syncLoopExit_eq : ∀ (a b c d : Bool), Gen.Ck.syncLoopExit a b c d = loopExit a b c := by decide

/-! ### (T) the guarded checkpoints and returns of `checkpointIfNeeded`

`Ck.attempts` (the priority order: emergency TRUNCATE with a PASSIVE attempt
first, then PASSIVE at the MinCheckpointPageN size, then the time-based PASSIVE
one) was written against this sequence; it is regenerated from db.go on every
run.  In particular the size-threshold checkpoint is guarded by the size alone:
it is also the retry for a threshold crossed while the gate was closed. -/

def expectedIfNeededSteps : List (String × String) := [
  ("return nil", "db.pageSize == 0"),
  ("checkpointWithExecutor(ctx,CheckpointModePassive,exec)", "db.exceedsTruncateThreshold(origWALSize) && !exec.state.truncatePassiveFailed"),
  ("return err", "db.exceedsTruncateThreshold(origWALSize) && !exec.state.truncatePassiveFailed && err != nil && !isSQLiteBusyError(err)"),
  ("return nil", "db.exceedsTruncateThreshold(origWALSize) && !exec.state.truncatePassiveFailed && !(err != nil) && restarted && !db.exceedsTruncateThreshold(exec.state.lastSyncedWALOffset)"),
  ("checkpointWithExecutor(ctx,CheckpointModeTruncate,exec)", "db.exceedsTruncateThreshold(origWALSize)"),
  ("return err", "db.exceedsTruncateThreshold(origWALSize)"),
  ("checkpointWithExecutor(ctx,CheckpointModePassive,exec)", "newWALSize >= calcWALSize(uint32(db.pageSize), uint32(db.MinCheckpointPageN))"),
  ("return nil", "newWALSize >= calcWALSize(uint32(db.pageSize), uint32(db.MinCheckpointPageN)) && err != nil && isSQLiteBusyError(err)"),
  ("return err", "newWALSize >= calcWALSize(uint32(db.pageSize), uint32(db.MinCheckpointPageN)) && err != nil"),
  ("return nil", "newWALSize >= calcWALSize(uint32(db.pageSize), uint32(db.MinCheckpointPageN))"),
  ("return fmt.Errorf(\"stat database: %w\", err)", "db.CheckpointInterval > 0 && exec.state.syncedSinceCheckpoint && err != nil"),
  ("checkpointWithExecutor(ctx,CheckpointModePassive,exec)", "db.CheckpointInterval > 0 && exec.state.syncedSinceCheckpoint && time.Since(fi.ModTime()) > db.CheckpointInterval && newWALSize > calcWALSize(uint32(db.pageSize), 1)"),
  ("return nil", "db.CheckpointInterval > 0 && exec.state.syncedSinceCheckpoint && time.Since(fi.ModTime()) > db.CheckpointInterval && newWALSize > calcWALSize(uint32(db.pageSize), 1) && err != nil && isSQLiteBusyError(err)"),
  ("return err", "db.CheckpointInterval > 0 && exec.state.syncedSinceCheckpoint && time.Since(fi.ModTime()) > db.CheckpointInterval && newWALSize > calcWALSize(uint32(db.pageSize), 1) && err != nil"),
  ("return nil", "db.CheckpointInterval > 0 && exec.state.syncedSinceCheckpoint && time.Since(fi.ModTime()) > db.CheckpointInterval && newWALSize > calcWALSize(uint32(db.pageSize), 1)"),
  ("return nil", "")
]

theorem gen_ifNeeded_steps_eq : Gen.Ck.ifNeededSteps = expectedIfNeededSteps := rfl

theorem gen_min_threshold_guard_is_size_only :
    ("checkpointWithExecutor(ctx,CheckpointModePassive,exec)",
      "newWALSize >= calcWALSize(uint32(db.pageSize), uint32(db.MinCheckpointPageN))") ∈ Gen.Ck.ifNeededSteps := by
  simp [Gen.Ck.ifNeededSteps]

theorem gen_truncate_guard :
    ("checkpointWithExecutor(ctx,CheckpointModeTruncate,exec)", "db.exceedsTruncateThreshold(origWALSize)") ∈ Gen.Ck.ifNeededSteps := by
  simp [Gen.Ck.ifNeededSteps]

example : idleIter ⟨4096, 1000, 0, 0⟩ 7 ⟨37, 5, true⟩ = ⟨37, 5, true⟩ := by decide
example : idleIter ⟨512, 4, 0, 0⟩ 7 ⟨9, 5, true⟩ = ⟨1, 6, false⟩ := by decide

end C13
end Litestream
