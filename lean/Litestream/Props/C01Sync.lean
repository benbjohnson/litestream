import Litestream.Gen.SyncSteps
/-!
# C01 / C02 — (T) the steps of `DB.sync` that decide what is copied

A structural tie: the guarded sequence of assignments and calls in `DB.sync`
is regenerated from db.go on every run and must equal the
sequence the page-level model (`Model/SyncStep.lean`: TXID = position + 1, a
snapshot reads the whole WAL unbudgeted, incremental files carry the page map
of the range `[offset, offset+size)`) was written against.  A rewrite that keeps
the behaviour breaks this obligation without a failing input (reported as
`no-failing-input-found`); a rewrite that changes it is found by the engine.
-/
namespace Litestream
namespace C01

def expectedSyncSteps : List (String × String) := [
  ("set result.newWALSize = exec.state.lastSyncedWALOffset", ""),
  ("set result.syncedToWALEnd = exec.state.syncedToWALEnd", ""),
  ("set result.syncedToWALEnd = false", "info.clearSyncedToWALEnd"),
  ("set txID = exec.pos.TXID + 1", ""),
  ("set commit = uint32(fi.Size() / int64(db.pageSize))", ""),
  ("set info.offset = WALHeaderSize", "info.snapshotting"),
  ("call NewWALReader(walFile,walReaderLogger)", "info.offset == WALHeaderSize"),
  ("call NewWALReaderWithOffset(ctx,walFile,info.offset,info.salt1,info.salt2,walReaderLogger)", "!(info.offset == WALHeaderSize)"),
  ("set info.offset = WALHeaderSize", "!(info.offset == WALHeaderSize) && errors.As(err, &pfmError)"),
  ("call NewWALReader(walFile,walReaderLogger)", "!(info.offset == WALHeaderSize) && errors.As(err, &pfmError)"),
  ("set maxSyncWALBytes = 0", "info.snapshotting"),
  ("call pageMap(ctx,maxSyncWALBytes)", ""),
  ("set result.limited = limited", ""),
  ("set commit = walCommit", "walCommit > 0"),
  ("set sz = maxOffset - info.offset", "maxOffset > 0"),
  ("call writeLTXFromDB(ctx,enc,walFile,commit,pageMap)", "info.snapshotting"),
  ("call writeLTXFromWAL(ctx,enc,walFile,info.prevCommit,commit,pageMap)", "!(info.snapshotting)"),
  ("set result.synced = true", ""),
  ("set finalOffset = info.offset + sz", ""),
  ("set result.newWALSize = finalOffset", ""),
  ("set result.syncedToWALEnd = finalOffset == walSize", "err == nil"),
  ("set result.syncedToWALEnd = false", "!(err == nil)")]

def expectedHeaderFields : List String :=
  ["Version=ltx.Version", "Flags=ltx.HeaderFlagNoChecksum", "PageSize=uint32(db.pageSize)", "Commit=commit", "MinTXID=txID",
   "MaxTXID=txID", "Timestamp=timestamp.UnixMilli()", "WALOffset=info.offset", "WALSize=sz", "WALSalt1=rd.salt1", "WALSalt2=rd.salt2"]

theorem gen_sync_steps_eq : Gen.SyncSteps.steps = expectedSyncSteps := rfl
theorem gen_sync_header_eq : Gen.SyncSteps.headerFields = expectedHeaderFields := rfl

/-! ### The byte budget (`MaxSyncWALBytes`) reaches `DB.sync` only through `DB.Sync`'s loop

A budgeted sync copies a prefix of the WAL and reports `limited`; only `DB.Sync`
loops until the end of the WAL is reached (`C13.gen_syncLoopExit_eq`).  Every
other caller — `Close`'s final sync, the syncs inside a checkpoint — must pass
budget 0, for which `pageMap` reads to the last commit
(`C09.pageMap_eq_recover`: `limited = false`). -/

def expectedBudgetFlow : List (String × String × String) := [
  ("Close", "syncLocked", "0"),
  ("Sync", "syncOnce", "db.MaxSyncWALBytes"),
  ("syncOnce", "syncLocked", "maxSyncWALBytes"),
  ("syncLocked", "verifyAndSyncWithExecutor", "maxSyncWALBytes"),
  ("verifyAndSync", "verifyAndSyncWithExecutor", "0"),
  ("verifyAndSyncWithExecutor", "sync", "maxSyncWALBytes"),
  ("checkpointWithExecutor", "verifyAndSyncWithExecutor", "0"),
  ("checkpointWithExecutor", "verifyAndSyncWithExecutor", "0"),
  ("checkpointWithExecutor", "verifyAndSyncWithExecutor", "0"),
  ("checkpointWithExecutor", "verifyAndSyncWithExecutor", "0"),
  ("checkpointWithExecutor", "verifyAndSyncWithExecutor", "0"),
  ("checkpointWithExecutor", "sync", "0")]

theorem gen_budget_flow_eq : Gen.SyncSteps.budgetFlow = expectedBudgetFlow := rfl

theorem gen_budget_introduced_only_by_Sync :
    ∀ e ∈ Gen.SyncSteps.budgetFlow, e.2.2 ≠ "0" → e.2.2 ≠ "maxSyncWALBytes" → e.1 = "Sync" := by
  simp [Gen.SyncSteps.budgetFlow]

theorem gen_close_and_checkpoint_unbudgeted :
    ∀ e ∈ Gen.SyncSteps.budgetFlow, e.1 = "Close" ∨ e.1 = "checkpointWithExecutor" ∨ e.1 = "verifyAndSync" → e.2.2 = "0" := by
  simp [Gen.SyncSteps.budgetFlow]

end C01
end Litestream
