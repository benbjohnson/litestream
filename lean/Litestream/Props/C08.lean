import Litestream.Lemmas.PlanTop
import Litestream.Lemmas.PlanSort
import Litestream.Gen.Plan
/-!
# C08 — Restore plans are valid chains and are found whenever one exists

The theorems are about `calcRestorePlan`, the cursor-level model of `CalcRestorePlan`
(`Model/Plan.lean`) that the driver executes against the real Go function on
every run.  All statements hold for every listing of every size.
-/
namespace Litestream
namespace C08

structure ValidChain (levels : Nat → List FileInfo) (tg : Target) (Q : List FileInfo) : Prop where
  nonempty : Q ≠ []
  chain : chainFrom 0 Q = true
  files : ∀ f ∈ Q, InLevels levels f ∧ elig tg f = true
  target : tg.txid ≠ 0 → chainEnd 0 Q = tg.txid

theorem ValidChain.toChain {levels tg Q} (h : ValidChain levels tg Q) :
    Chain (Usable levels tg) 0 Q (chainEnd 0 Q) :=
  ⟨h.chain, rfl, h.files⟩

theorem ValidChain.pos {levels tg Q} (h : ValidChain levels tg Q) : 0 < chainEnd 0 Q :=
  h.toChain.ne_nil_iff.mp h.nonempty

theorem ValidChain.vis {fs tg Q} (h : ValidChain (listLevel fs) tg Q) : Chain (Vis fs) 0 Q (chainEnd 0 Q) :=
  h.toChain.mono fun _ hf => inLevels_listLevel.mp hf.1

theorem _root_.Litestream.Chain.validChain {levels tg Q r}
    (h : Chain (Usable levels tg) 0 Q r) (hr : 0 < r) (ht : tg.txid ≠ 0 → r = tg.txid) :
    ValidChain levels tg Q :=
  ⟨h.ne_nil_iff.mpr hr, h.chain, h.files, fun h0 => h.reach.trans (ht h0)⟩

/-- "Latest" filters nothing. -/
theorem validChain_latest {fs Q r} (h : Chain (Vis fs) 0 Q r) (hr : 0 < r) : ValidChain (listLevel fs) ⟨0, none⟩ Q :=
  (h.mono fun _ hf => ⟨inLevels_listLevel.mpr hf, elig_iff.mpr ⟨.inl rfl, nofun⟩⟩).validChain hr (absurd rfl)

theorem calcRestorePlan_spec {levels : Nat → List FileInfo} {tg : Target} (hwf : LevelsWF levels) :
    match calcRestorePlan levels tg with
    | .ok P => ValidChain levels tg P ∧ (∀ Q, ValidChain levels tg Q → chainEnd 0 Q ≤ chainEnd 0 P) ∧
        (tg.txid = 0 → tg.ts = none →
          ¬ ∃ l, l < snapshotLevel ∧ ∃ f ∈ levels l, chainEnd 0 P + 1 < f.min)
    | .error .both => tg.txid ≠ 0 ∧ tg.ts.isSome = true
    | .error .nonContiguous => tg.txid = 0 ∧ tg.ts = none ∧
        ∃ r, (∀ Q, ValidChain levels tg Q → chainEnd 0 Q ≤ r) ∧
          ∃ l, l < snapshotLevel ∧ ∃ f ∈ levels l, r + 1 < f.min
    | .error .txNotAvailable => ¬ (tg.txid ≠ 0 ∧ tg.ts.isSome = true) ∧ ¬ ∃ Q, ValidChain levels tg Q
    | .error .fuel => False := by
  by_cases hb : tg.txid ≠ 0 ∧ tg.ts.isSome = true
  · rw [calcRestorePlan_both hb]; exact hb
  · obtain ⟨P, r, gap, hP, hexit, hrun⟩ := calcRestorePlan_run hwf hb
    have hdom : ∀ Q, ValidChain levels tg Q → chainEnd 0 Q ≤ r := by
      intro Q hQ
      rcases hexit with ⟨h1, h2⟩ | ⟨hcl, _⟩
      · rw [hQ.target h1]; exact h2
      · exact hQ.toChain.le_of_closed (fun f hf => hcl f hf.1 hf.2) (Nat.zero_le _)
    have hlast : lastMax P = r := by rw [lastMax_eq_chainEnd, hP.reach]
    have hv := planVerdict_spec tg P gap
    rw [hrun]
    generalize planVerdict tg P gap = v at hv
    match v, hv with
    | .ok _, ⟨rfl, hne, htg, hng⟩ =>
      refine ⟨hP.validChain (hP.ne_nil_iff.mp hne) fun ht => ?_, hP.reach ▸ hdom, fun h0 hts hex => ?_⟩
      · -- no file reaches beyond the target (`elig`), and the last one reaches it (`htg`)
        have hge := htg ht
        rw [hlast] at hge
        exact Nat.le_antisymm
          (hP.le_of_closed (fun f hf _ => (elig_iff.mp hf.2).1.resolve_left ht) (Nat.zero_le _)) hge
      · rcases hexit with ⟨h1, _⟩ | ⟨_, hiff⟩
        · exact h1 h0
        · exact hng ⟨h0, hts, hiff.mpr (hP.reach ▸ hex)⟩
    | .error .nonContiguous, ⟨_, h0, hts, hgap⟩ =>
      rcases hexit with ⟨h1, _⟩ | ⟨_, hiff⟩
      · exact absurd h0 h1
      · exact ⟨h0, hts, r, hdom, hiff.mp hgap⟩
    | .error .txNotAvailable, hshort =>
      refine ⟨hb, fun ⟨Q, hQ⟩ => ?_⟩
      have := hdom Q hQ
      have := hQ.pos
      rcases hshort with rfl | ⟨_, ht, hlt⟩
      · have := Chain.nil_iff.mp hP
        omega
      · rw [hlast, ← hQ.target ht] at hlt
        omega
    | .error .both, hv => exact hv.elim
    | .error .fuel, hv => exact hv.elim

theorem ValidChain.head_min {levels tg Q} (hwf : LevelsWF levels) (hQ : ValidChain levels tg Q) :
    ∀ f, Q.head? = some f → f.min = 1 := by
  intro f hf
  cases Q with
  | nil => cases hf
  | cons g fs =>
    cases hf
    have ⟨⟨⟨l, _, hl⟩, _⟩, hmin, _⟩ := Chain.cons_iff.mp hQ.toChain
    have := hwf.pos l f hl
    omega

/-- A returned plan starts at TXID 1, is a contiguous chain of listed files that pass the
    TXID/timestamp filters, and ends exactly at the requested TXID when one is given. -/
theorem plan_sound {levels tg P} (hwf : LevelsWF levels) (h : calcRestorePlan levels tg = .ok P) :
    ValidChain levels tg P ∧ (∀ f, P.head? = some f → f.min = 1) ∧
    (∀ T, tg.ts = some T → ∀ f ∈ P, f.created < T) := by
  have hs := calcRestorePlan_spec hwf (tg := tg)
  rw [h] at hs
  exact ⟨hs.1, hs.1.head_min hwf, fun T hT f hf => (elig_iff.mp (hs.1.files f hf).2).2 T hT⟩

/-- For "latest": the plan ends at the highest reachable TXID. -/
theorem plan_reaches_max {levels tg P} (hwf : LevelsWF levels) (h : calcRestorePlan levels tg = .ok P)
    {Q} (hQ : ValidChain levels tg Q) : chainEnd 0 Q ≤ chainEnd 0 P := by
  have hs := calcRestorePlan_spec hwf (tg := tg)
  rw [h] at hs
  exact hs.2.1 Q hQ

/-- If any valid chain to the target exists, the planner returns a plan; the only other outcome is
    the explicit gap report, and only for a "latest" request. -/
theorem plan_complete {levels tg} (hwf : LevelsWF levels) (hnb : ¬ (tg.txid ≠ 0 ∧ tg.ts.isSome = true))
    (hex : ∃ Q, ValidChain levels tg Q) :
    (∃ P, calcRestorePlan levels tg = .ok P) ∨
    (tg.txid = 0 ∧ tg.ts = none ∧ calcRestorePlan levels tg = .error .nonContiguous) := by
  have hs := calcRestorePlan_spec hwf (tg := tg)
  split at hs
  · next P hP => exact Or.inl ⟨P, hP⟩
  · exact absurd hs hnb
  · next hP => exact Or.inr ⟨hs.1, hs.2.1, hP⟩
  · exact absurd hex hs.2
  · exact hs.elim

/-- A successful "latest" plan never stops short of files that lie beyond a gap. -/
theorem plan_reports_gap {levels P} (hwf : LevelsWF levels)
    (h : calcRestorePlan levels ⟨0, none⟩ = .ok P) :
    ¬ ∃ l, l < snapshotLevel ∧ ∃ f ∈ levels l, chainEnd 0 P + 1 < f.min := by
  have hs := calcRestorePlan_spec hwf (tg := ⟨0, none⟩)
  rw [h] at hs
  exact hs.2.2 rfl rfl

/-- The gap report is never spurious. -/
theorem gap_error_justified {levels} (hwf : LevelsWF levels)
    (h : calcRestorePlan levels ⟨0, none⟩ = .error .nonContiguous) :
    ∃ r, (∀ Q, ValidChain levels ⟨0, none⟩ Q → chainEnd 0 Q ≤ r) ∧
         ∃ l, l < snapshotLevel ∧ ∃ f ∈ levels l, r + 1 < f.min := by
  have hs := calcRestorePlan_spec hwf (tg := ⟨0, none⟩)
  rw [h] at hs
  exact hs.2.2

theorem plan_error_means_none {levels tg} (hwf : LevelsWF levels)
    (h : calcRestorePlan levels tg = .error .txNotAvailable) : ¬ ∃ Q, ValidChain levels tg Q := by
  have hs := calcRestorePlan_spec hwf (tg := tg)
  rw [h] at hs
  exact hs.2

theorem planFiles_sound {fs tg P} (hwf : FilesWF fs) (h : planFiles fs tg = .ok P) :
    P ≠ [] ∧ chainFrom 0 P = true ∧ (∀ f, P.head? = some f → f.min = 1) ∧
    (∀ f ∈ P, f ∈ fs ∧ elig tg f = true) ∧ (tg.txid ≠ 0 → chainEnd 0 P = tg.txid) ∧
    (∀ T, tg.ts = some T → ∀ f ∈ P, f.created < T) := by
  obtain ⟨hv, hh, ht⟩ := plan_sound (listLevel_wf hwf) h
  exact ⟨hv.nonempty, hv.chain, hh,
    fun f hf => ⟨(hv.vis.files f hf).1, (hv.files f hf).2⟩, hv.target, ht⟩

theorem planFiles_complete {fs tg} (hwf : FilesWF fs) (hnb : ¬ (tg.txid ≠ 0 ∧ tg.ts.isSome = true))
    (hex : ∃ Q, ValidChain (listLevel fs) tg Q) :
    (∃ P, planFiles fs tg = .ok P) ∨
    (tg.txid = 0 ∧ tg.ts = none ∧ planFiles fs tg = .error .nonContiguous) :=
  plan_complete (listLevel_wf hwf) hnb hex

theorem planFiles_reaches_max {fs tg P} (hwf : FilesWF fs) (h : planFiles fs tg = .ok P)
    {Q} (hQ : ValidChain (listLevel fs) tg Q) : chainEnd 0 Q ≤ chainEnd 0 P :=
  plan_reaches_max (listLevel_wf hwf) h hQ

theorem planFiles_reports_gap {fs P} (hwf : FilesWF fs) (h : planFiles fs ⟨0, none⟩ = .ok P) :
    ¬ ∃ f ∈ fs, f.level < snapshotLevel ∧ chainEnd 0 P + 1 < f.min := by
  intro ⟨f, hf, hl, hlt⟩
  exact plan_reports_gap (listLevel_wf hwf) h ⟨f.level, hl, f, mem_listLevel.mpr ⟨hf, rfl⟩, hlt⟩

theorem latest_reaches_max {fs P Q : List FileInfo} {r : Nat} (hwf : FilesWF fs) (h : planFiles fs ⟨0, none⟩ = .ok P)
    (hQ : Chain (Vis fs) 0 Q r) : r ≤ chainEnd 0 P := by
  rcases Nat.eq_zero_or_pos r with rfl | hr
  · exact Nat.zero_le _
  · exact hQ.reach ▸ planFiles_reaches_max hwf h (validChain_latest hQ hr)

/-- "Latest" is planned whenever some chain of visible files leaves no file of a lower level beyond a gap (the
    converse of `planFiles_reports_gap`). -/
theorem latest_planned {fs Q : List FileInfo} {r : Nat} (hwf : FilesWF fs) (hQ : Chain (Vis fs) 0 Q r) (hr : 0 < r)
    (hcover : ∀ f ∈ fs, f.level < snapshotLevel → f.min ≤ r + 1) :
    ∃ P, planFiles fs ⟨0, none⟩ = .ok P := by
  have hv := validChain_latest hQ hr
  rcases planFiles_complete hwf (by simp) ⟨Q, hv⟩ with hok | ⟨_, _, herr⟩
  · exact hok
  · obtain ⟨r', hdom, l, hl, f, hf, hlt⟩ := gap_error_justified (listLevel_wf hwf) herr
    obtain ⟨hfs, hlv⟩ := mem_listLevel.mp hf
    have := hdom Q hv
    have := hQ.reach
    have := hcover f hfs (hlv ▸ hl)
    omega

/-! ### (T) ties: the decision functions regenerated from /repo on this run equal the model's -/

theorem gen_better_eq (a b : FileInfo) : Gen.restoreCandidateBetter a b = better a b := by
  -- `rfl` while the regenerated if-chain is the model's word for word; the second arm still proves a rewrite
  -- of the comparisons that decides the same
  first
  | rfl
  | (unfold Gen.restoreCandidateBetter better; repeat' split <;> simp_all <;> omega)

theorem gen_snapshotLevel_eq : Gen.snapshotLevel = snapshotLevel := by decide

def exFiles : List FileInfo :=
  [⟨9, 1, 3, 30⟩, ⟨0, 1, 1, 10⟩, ⟨0, 2, 2, 20⟩, ⟨0, 3, 3, 30⟩, ⟨0, 4, 4, 40⟩, ⟨1, 4, 6, 60⟩, ⟨0, 5, 5, 50⟩, ⟨0, 8, 8, 80⟩]

example : FilesWF exFiles := by
  unfold FilesWF
  decide

example : planFiles exFiles ⟨6, none⟩ = .ok [⟨9, 1, 3, 30⟩, ⟨1, 4, 6, 60⟩] := by decide
example : planFiles exFiles ⟨0, none⟩ = .error .nonContiguous := by decide
example : planFiles exFiles ⟨0, some 45⟩ = .ok [⟨9, 1, 3, 30⟩, ⟨0, 4, 4, 40⟩] := by decide
example : planFiles exFiles ⟨7, none⟩ = .error .txNotAvailable := by decide
example : ValidChain (listLevel exFiles) ⟨6, none⟩ [⟨0, 1, 1, 10⟩, ⟨0, 2, 2, 20⟩, ⟨0, 3, 3, 30⟩, ⟨1, 4, 6, 60⟩] :=
  ⟨by simp, by decide, by simp only [inLevels_listLevel, Vis]; decide, by intro _; decide⟩

/-- E2: outside `FilesWF` (a level-9 file that does not start at TXID 1) the
    planner does start from it — the forced hypothesis is not vacuous padding. -/
example : planFiles [⟨9, 3, 5, 10⟩] ⟨0, none⟩ = .ok [⟨9, 3, 5, 10⟩] := by decide

end C08
end Litestream
