import Litestream.Lemmas.Reader
import Litestream.Lemmas.RestoreFlow
import Litestream.Gen.Reader
/-!
# C10 — Restore fails loudly rather than produce a wrong or partial database

About `Reader.read`/`Reader.run` (model of `ResumableReader.Read`, Model/Reader.lean) for every adversary
schedule, content, expected size and caller buffer sequence, and about `RestoreFlow.restore` (output protocol
of `Replica.Restore`, Model/RestoreFlow.lean) for every failure pattern.

What is *not* proved (level `partial` for that part): that a changed byte changes
the CRC-64 — the checksum is abstract (`Codec.sumOk`).  It is the named hypothesis
`DetectsCorruption` of `restore_correct_or_error_partial` and is enumerated
exhaustively on the implementation by the engine (harness/cmd/c10).

The flow theorems about `restore` also assume that no `-wal`/`-shm` lies beside the absent output
path beforehand (`walPre = shmPre = false`; otherwise `foreign_wal_witness`, and
`restore_fixed_ok_clean` for the step list with `rmSidecars`), and `restore_output_states_partial`
that the decoder library returns errors instead of panicking.
-/
namespace Litestream
namespace C10
open Reader RestoreFlow

/-! ## (T) ties to the source, regenerated on every run -/

theorem gen_maxRetries_eq : Gen.resumableReaderMaxRetries = maxRetriesConst := by
  first | rfl | decide

/-- the retry guard of the source is the model's `retry` test -/
theorem gen_retryExceeded_eq (r : Gen.RR) :
    Gen.retryExceeded r = decide (r.retryN > maxRetriesConst) := by
  first | rfl | (simp [Gen.retryExceeded, Gen.resumableReaderMaxRetries, maxRetriesConst])

/-- the premature-EOF guard of the source is the model's (`readBody`) -/
theorem gen_prematureEOF_eq (r : Gen.RR) :
    Gen.prematureEOF r = decide (r.size > 0 ∧ r.offset < r.size) := by
  first | rfl | (simp [Gen.prematureEOF])

/-- reopen passes `r.offset`; `r.offset += n` directly follows the underlying read -/
theorem gen_reader_offset_discipline : Gen.reopenAtOffset = true ∧ Gen.offsetAccounting = true := by
  first | exact ⟨rfl, rfl⟩ | decide

/-- the step order extracted from the source is the modelled one — of the pinned tree, or of a tree that
    removes stale `-wal`/`-shm` before publishing the output (proposed-fixes/C10-foreign-wal.diff) -/
theorem gen_restore_order_eq : Gen.restoreOrder = restoreSteps ∨ Gen.restoreOrder = restoreStepsFixed := by
  first | exact Or.inl rfl | exact Or.inr rfl | decide

theorem gen_restore_cleanup_eq : Gen.restoreIntegrityCleanup = integrityCleanup := by
  first | rfl | decide

/-- Whatever the underlying stream and the reopen calls do, the bytes handed to the caller (including those
    of the call that returns an error) are `content[0, offset)`: no gap, no repeat. -/
theorem reader_exact (c : Cfg) (bufs : List Nat) (sched : List Dec) (rcOpen : Bool) :
    (run c bufs (St.init sched rcOpen)).2.1 = c.content.take (run c bufs (St.init sched rcOpen)).1.offset
    ∧ (run c bufs (St.init sched rcOpen)).1.offset ≤ c.content.length := by
  have h := run_post c bufs (St.init sched rcOpen) (init_inv c sched rcOpen)
  exact ⟨h.data, h.inv.off_le⟩

/-- With a known size, `io.EOF` is returned only after the complete content. -/
theorem reader_eof_complete (c : Cfg) (hsize : c.size > 0) (hlen : c.content.length ≤ c.size)
    (bufs : List Nat) (sched : List Dec) (rcOpen : Bool)
    (heof : (run c bufs (St.init sched rcOpen)).2.2 = some .eof) :
    (run c bufs (St.init sched rcOpen)).2.1 = c.content := by
  have h := run_post c bufs (St.init sched rcOpen) (init_inv c sched rcOpen)
  have hx := reader_exact c bufs sched rcOpen
  rw [hx.1]
  rcases h.eof heof with h0 | hge
  · omega
  · apply List.take_of_length_le
    omega

/-- The hypothesis `size > 0` is needed: with an unknown size (0) the code takes a premature
    EOF for the real one (the documented "0 means unknown" mode; Restore and Compact always
    pass `info.Size ≥ HeaderSize`, see `restore_ok_data`). -/
theorem reader_eof_unknown_size_incomplete :
    (run ⟨[1, 2, 3, 4], 0, 3⟩ [4, 4] (St.init [⟨.ok, 0, .none⟩, ⟨.ok, 2, .eof⟩])).2 = ([1, 2], some .eof) := by
  decide

/-- At most `maxRetries + 1` non-fatal `OpenLTXFile` calls are ever made (the initial open plus `maxRetries`
    reopen attempts; a fatal — not-exist / context — reopen error is returned at once and is not counted);
    "max retries exceeded" is sticky: every later `Read` returns it without touching the storage client. -/
theorem reader_bounded (c : Cfg) (bufs : List Nat) (sched : List Dec) (rcOpen : Bool) :
    let r := run c bufs (St.init sched rcOpen)
    r.1.retryN ≤ c.maxRetries + 1
    ∧ r.1.opens ≤ c.maxRetries + 1 + r.1.fatals
    ∧ (r.2.2 = some .maxRetries → ∀ p, read c p r.1 = (r.1, [], some .maxRetries))
    ∧ r.2.2 ≠ some .fuel := by
  intro r
  have h : Post c _ r := run_post c bufs (St.init sched rcOpen) (init_inv c sched rcOpen)
  refine ⟨h.inv.retry_le, ?_, fun hm p => ?_, h.nofuel⟩
  · have := h.inv.opens_le
    omega
  · rw [Reader.read, if_pos (h.sticky hm)]

/-- per `Read`, for the driver's per-call replay -/
theorem read_no_fuel (c : Cfg) (p : Nat) (st : St) (h : Inv c st) : (read c p st).2.2 ≠ some .fuel :=
  (read_post c p st h).nofuel

/-! a schedule with an error mid-stream, a premature EOF and a failed reopen is
    absorbed (3 retries) and the content arrives complete; a fourth fault exhausts the budget. -/
example : (run ⟨[1, 2, 3, 4, 5], 5, 3⟩ [2, 2, 2, 2, 2, 2]
    (St.init [⟨.ok, 0, .none⟩, ⟨.ok, 2, .other⟩, ⟨.fail, 0, .none⟩, ⟨.ok, 0, .none⟩, ⟨.ok, 1, .eof⟩])).2
    = ([1, 2, 3, 4, 5], some .eof) := by decide
example : (run ⟨[1, 2, 3, 4, 5], 5, 3⟩ [2, 2, 2, 2, 2, 2]
    (St.init [⟨.ok, 0, .none⟩, ⟨.ok, 2, .other⟩, ⟨.fail, 0, .none⟩, ⟨.ok, 0, .none⟩, ⟨.ok, 1, .eof⟩,
              ⟨.ok, 0, .none⟩, ⟨.ok, 1, .other⟩])).2
    = ([1, 2, 3, 4], some .maxRetries) := by decide

theorem restore_never_overwrites {D : Type} (inp : Inputs D) (h : inp.outPre = true) :
    (restore inp).1.out = .pre ∧ (restore inp).2 = .error .outputExists
    ∧ (restore inp).1.tmp = (initFs inp).tmp := by
  have hr : restore inp = (initFs inp, .error .outputExists) := by
    rw [restore, restoreWith_eq_resultOf, restoreSteps, runSteps_refused inp _ h]; rfl
  rw [hr]
  exact ⟨by simp [initFs, h], rfl, rfl⟩

/-- Full-strength statement of "nothing partial is ever left behind", for every input including a
    panicking decoder library.  It is FALSE of the code (`restore_output_states_full_false`,
    KNOWN_FINDINGS `C10/restore-trunc-lt8-after-pageblock-crash`): a panic in the compactor goroutine
    kills the process before the deferred `os.Remove(tmp)` runs. -/
def RestoreOutputStatesFull : Prop :=
  ∀ (inp : Inputs Unit), (restore inp).1.tmp ≠ .partialW ∧ ∀ d, (restore inp).2 ≠ .error .crash ∧ (restore inp).1.tmp ≠ .complete d

def panicWitness : Inputs Unit :=
  ⟨false, false, fun _ => false, none, true, false, fun _ => true, false, false, false, false, false, id, true⟩

theorem restore_output_states_full_false : ¬ RestoreOutputStatesFull := by
  intro h
  have := (h panicWitness).1
  exact this (by decide)

/-- on the witness: the process dies with `<output>.tmp` left partial and the output path absent -/
theorem restore_tmp_left_on_decoder_panic :
    (restore panicWitness).1 = ⟨.absent, .partialW, false, false⟩ ∧ (restore panicWitness).2 = .error .crash :=
  ⟨rfl, rfl⟩

/-- Partial: the decoder library does not panic (`hp`; otherwise `restore_output_states_full_false`) and no
    `-wal`/`-shm` lies beside the absent output path beforehand (`hw`, `hs`; otherwise `foreign_wal_witness`).
    At return the output path is untouched-pre-existing, absent, or holds the complete decoded database;
    `<output>.tmp` is never left behind by the call; and a failed integrity check (context alive) removes
    output, `-wal` and `-shm`. -/
theorem restore_output_states_partial {D : Type} (inp : Inputs D) (hp : inp.decodePanics = false)
    (hw : inp.walPre = false) (hs : inp.shmPre = false) :
    ((restore inp).1.out = .pre ∧ inp.outPre = true ∨ (restore inp).1.out = .absent
      ∨ ∃ d, (restore inp).1.out = .complete d ∧ inp.decoded = some d)
    ∧ (restore inp).1.out ≠ .partialW
    ∧ (restore inp).1.tmp ≠ .partialW ∧ (∀ d, (restore inp).1.tmp ≠ .complete d)
    ∧ (inp.tmpPre = false → (restore inp).1.tmp = .absent)
    ∧ ((restore inp).2 = .error (.step .integrity) → inp.ctxCancelled = false →
        (restore inp).1.out = .absent ∧ (restore inp).1.wal = false ∧ (restore inp).1.shm = false) := by
  have ho := restore_outcome_clean inp hw hs
  generalize restore inp = r at ho
  -- every row of the table gives file system and result as constructor terms; `simp` reads the six
  -- conjuncts off them
  cases ho with
  | untouched e he =>
    have hi : e ≠ .step .integrity := by intro h; subst h; simp at he
    rcases initFs_out inp with ho | ho <;> rcases initFs_tmp inp with ht | ht <;> simp [ho, ht, hi]
  | crashed hc => rw [hp] at hc; cases hc
  | unpublished s _ _ hm =>
    -- `simp` leaves the last conjunct, `s = .integrity → …`: the check is not among the steps of this row
    simp; intro h; subst h; simp at hm
  | published d _ hd _ _ hpub =>
    cases hpub with
    | cancelled hcc => simp [hd, hcc]
    | checked d' hd' => subst hd'; simp [hd]
    | _ => simp [hd]

/-- The only errors after which a complete output exists are a failed directory fsync and a cancelled
    integrity check. -/
theorem restore_error_output_absent {D : Type} (inp : Inputs D) (hp : inp.decodePanics = false)
    (hw : inp.walPre = false) (hs : inp.shmPre = false) (e : Err)
    (he : (restore inp).2 = .error e)
    (h1 : e ≠ .step .fsyncDir) (h2 : e = .step .integrity → inp.ctxCancelled = false) :
    (restore inp).1.out = .absent ∨ ((restore inp).1.out = .pre ∧ inp.outPre = true) := by
  have ho := restore_outcome_clean inp hw hs
  generalize restore inp = r at ho he
  cases ho with
  | untouched => exact (initFs_out inp).symm
  | crashed hc => rw [hp] at hc; cases hc
  | unpublished => exact .inl rfl
  | published d _ _ _ _ hpub =>
    cases hpub with
    | dirSync => cases he; exact absurd rfl h1
    | cancelled hcc => cases he; rw [h2 rfl] at hcc; cases hcc
    | removed => exact .inl rfl
    | _ => cases he

/-- Full-strength statement: a successful `Restore` publishes exactly the decoded database and leaves
    no write-ahead log next to it — for every input, including a pre-existing `<output>-wal`.  It is FALSE
    of the pinned tree (`restore_clean_output_full_false`; KNOWN_FINDINGS
    `C10/restore-foreign-wal-silent-wrong-output`): nothing looks at `<output>-wal`/`-shm` when `<output>`
    is absent, SQLite treats that WAL as hot and replays it into the restored database — at the first
    open, or already inside the post-restore integrity check, which then also checkpoints it into the file. -/
def RestoreCleanOutputFull : Prop :=
  ∀ (inp : Inputs Nat), inp.decodePanics = false → ∀ d, (restore inp).2 = .ok d →
    inp.decoded = some d ∧ (restore inp).1.wal = false

def foreignWalWitness (integrity : Bool) : Inputs Nat :=
  ⟨false, false, fun _ => false, some 1, true, integrity, fun _ => true, false, false, false, true, true, fun _ => 99, false⟩

/-- without the integrity check the restored file is right but the foreign WAL stays beside it;
    with the check, `Restore` itself returns the *other* database (99 instead of 1) -/
theorem foreign_wal_witness :
    resultOk? (restore (foreignWalWitness false)).2 = some 1 ∧ (restore (foreignWalWitness false)).1.wal = true
    ∧ resultOk? (restore (foreignWalWitness true)).2 = some 99 := by
  decide

theorem restore_clean_output_full_false : ¬ RestoreCleanOutputFull := by
  intro h
  obtain ⟨h1, h2, _⟩ := foreign_wal_witness
  have := (h (foreignWalWitness false) rfl 1 (resultOk?_eq_some_iff.mp h1)).2
  rw [h2] at this
  cases this

/-- With the stale sidecars removed before the output is published (`restoreStepsFixed`,
    proposed-fixes/C10-foreign-wal.diff) success means the decoded database and nothing beside it —
    whatever lay next to the output path before. -/
theorem restore_fixed_ok_clean {D : Type} (inp : Inputs D) (d : D)
    (h : (restoreWith restoreStepsFixed inp).2 = .ok d) :
    inp.decoded = some d ∧ (restoreWith restoreStepsFixed inp).1.out = .complete d
    ∧ (restoreWith restoreStepsFixed inp).1.wal = false ∧ (restoreWith restoreStepsFixed inp).1.shm = false := by
  obtain ⟨hd, _, _, hfs, _⟩ := (restoreFixed_outcome inp).ok_clean h
  rw [hfs]
  exact ⟨hd, rfl, rfl, rfl⟩

example : resultOk? (restoreWith restoreStepsFixed (foreignWalWitness true)).2 = some 1
    ∧ (restoreWith restoreStepsFixed (foreignWalWitness false)).1.wal = false := by
  decide

/-- Control flow. -/
theorem restore_ok_implies {D : Type} (inp : Inputs D) (hw : inp.walPre = false) (hs : inp.shmPre = false)
    (d : D) (h : (restore inp).2 = .ok d) :
    (restore inp).1.out = .complete d ∧ inp.decoded = some d ∧ inp.outPre = false ∧ inp.sizesOk = true
    ∧ (restore inp).1.tmp = .absent
    ∧ (inp.integrityOn = true → inp.integrityOk d = true) := by
  obtain ⟨hd, hpre, hsz, hfs, hok⟩ := (restore_outcome_clean inp hw hs).ok_clean h
  rw [hfs]
  exact ⟨rfl, hd, hpre, hsz, rfl, hok⟩

theorem received_eq_stored (f : FileIn) (hs : headerSize ≤ f.size) (hl : f.stored.length ≤ f.size)
    (b : List Nat) (h : received f = some b) : b = f.stored := by
  have hc := reader_eof_complete f.cfg (Nat.lt_of_lt_of_le (by decide) hs) hl f.bufs f.sched false
  unfold received at h
  split at h
  next heq => cases h; rw [heq] at hc; exact hc rfl
  next => cases h

/-- Data: on success every plan file was received exactly as stored, whatever its
    read-fault schedule, and `d` is decoded from the stored files. -/
theorem restore_ok_data {L D : Type} (k : Codec L D) (files : List FileIn) (base : Inputs D) (d : D)
    (hw : base.walPre = false) (hs : base.shmPre = false)
    (hlen : ∀ f ∈ files, f.stored.length ≤ f.size)
    (h : (restore (mkInputs k files base)).2 = .ok d) :
    (∀ f ∈ files, received f = some f.stored ∧ k.sumOk f.stored = true ∧ (k.parse f.stored).isSome)
    ∧ ∃ ls l, mapOpt (verifyParse k) (files.map (·.stored)) = some ls ∧ k.compact ls = some l
        ∧ k.decodeDb l = some d
    ∧ (restore (mkInputs k files base)).1.out = .complete d := by
  obtain ⟨hout, hdec, _, hsz, _, _⟩ := restore_ok_implies (mkInputs k files base) hw hs d h
  have hsz' : ∀ f ∈ files, headerSize ≤ f.size := by simpa [mkInputs] using hsz
  have hstored : ∀ f ∈ files, ∀ b, received f = some b → b = f.stored := fun f hf b hb =>
    received_eq_stored f (hsz' f hf) (hlen f hf) b hb
  obtain ⟨bs, ls, l, hbs, hls, hl, hdb⟩ := decodeStage_eq_some (show decodeStage k files = some d from hdec)
  -- every reader delivered what is stored, so the decoders saw the stored files
  have hbsEq : some bs = some (files.map (·.stored)) :=
    (mapOpt_congr hbs fun f hf b hb => by rw [hstored f hf b hb]).symm.trans (mapOpt_some _ files)
  cases hbsEq
  refine ⟨fun f hf => ?_, ls, l, hls, hl, hdb, hout⟩
  obtain ⟨b, _, hb⟩ := mapOpt_mem hbs hf
  obtain ⟨x, _, hx⟩ := mapOpt_mem hls (List.mem_map_of_mem (f := (·.stored)) hf)
  obtain ⟨hsum, hparse⟩ := verifyParse_eq_some_iff.mp hx
  exact ⟨hstored f hf b hb ▸ hb, hsum, by simp [hparse]⟩

/-- ASSUMPTION (not proved — the checksum is abstract; enumerated exhaustively on the implementation
    by the engine): whatever bytes pass `Decoder.Close`'s verification under the file's name decode to
    the same logical file as the bytes that were written.  (Not "are the same bytes": the CRC-64 is over
    the *decoded* pages, and the engine does find flipped bytes inside LZ4 blocks that decode identically.) -/
def DetectsCorruption {L D : Type} (k : Codec L D) (original stored : List Nat) : Prop :=
  ∀ l, verifyParse k stored = some l → verifyParse k original = some l

/-- C10's first sentence: success ⇒ the output is the database encoded by
    the *original* files.  Proved only under `DetectsCorruption` (hence `_partial`): what is
    missing is that CRC-64 + structural validation reject every truncation/bit-flip that changes
    the decoded file. -/
theorem restore_correct_or_error_partial {L D : Type} (k : Codec L D) (files : List FileIn)
    (orig : FileIn → List Nat) (base : Inputs D) (d : D)
    (hw : base.walPre = false) (hs : base.shmPre = false)
    (hlen : ∀ f ∈ files, f.stored.length ≤ f.size)
    (hdet : ∀ f ∈ files, DetectsCorruption k (orig f) f.stored)
    (h : (restore (mkInputs k files base)).2 = .ok d) :
    ∃ ls l, mapOpt (verifyParse k) (files.map orig) = some ls ∧ k.compact ls = some l ∧ k.decodeDb l = some d
      ∧ (restore (mkInputs k files base)).1.out = .complete d := by
  obtain ⟨_, ls, l, h1, h2, h3, h4⟩ := restore_ok_data k files base d hw hs hlen h
  rw [mapOpt_map] at h1 ⊢
  exact ⟨ls, l, mapOpt_congr h1 fun f hf b hb => hdet f hf b hb, h2, h3, h4⟩

def demoCodec : Codec (List Nat) (List Nat) :=
  ⟨fun b => some b, fun b => b.length % 2 == 0, fun ls => some ls.flatten, fun l => some l⟩
def demoBase : Inputs (List Nat) :=
  ⟨false, false, fun _ => false, none, true, true, fun _ => true, true, true, false, false, false, id, false⟩
def demoFile (bytes : List Nat) (sched : List Dec) : FileIn := ⟨bytes, 100, sched, List.replicate 8 64⟩

example : resultOk? (restore (mkInputs demoCodec [demoFile (List.replicate 100 7) [⟨.ok, 0, .none⟩, ⟨.ok, 40, .other⟩]] demoBase)).2
    = some (List.replicate 100 7) := by decide
example : (restore (mkInputs demoCodec [demoFile (List.replicate 99 7) []] demoBase)).1.out = .absent := by decide
example : (restore { demoBase with decoded := some [1], fails := fun s => s == .integrity }).1
    = ⟨.absent, .absent, false, false⟩ := by decide
example : (restore { demoBase with decoded := some [1], integrityOk := fun _ => false }).1
    = ⟨.absent, .absent, false, false⟩ := by decide
/-- both ways the integrity check can fail — the PRAGMA *errors* (`fails .integrity`: "file is not a
    database", malformed schema) and the PRAGMA *reports* problems (`integrityOk d = false`) — remove the
    output and its sidecars (the model does not distinguish them; the code must not either) -/
theorem integrity_failure_cause_irrelevant {D : Type} (inp : Inputs D) (hp : inp.decodePanics = false)
    (hw : inp.walPre = false) (hs : inp.shmPre = false)
    (hc : inp.ctxCancelled = false) (h : (restore inp).2 = .error (.step .integrity)) :
    (restore inp).1.out = .absent ∧ (restore inp).1.tmp ≠ .partialW ∧ (restore inp).1.wal = false
    ∧ (restore inp).1.shm = false := by
  obtain ⟨_, _, h3, _, _, h6⟩ := restore_output_states_partial inp hp hw hs
  obtain ⟨a, b, c⟩ := h6 h hc
  exact ⟨a, h3, b, c⟩
example : (restore { demoBase with decoded := some [1], outPre := true }).1.out = .pre := by decide

end C10
end Litestream
