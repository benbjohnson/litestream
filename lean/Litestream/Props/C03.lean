import Litestream.Props.C11
/-!
# C03 — Killing litestream at any instant loses nothing acknowledged and needs no repair

Model: `Model/Fs.lean` with **kill** semantics (`killState`), the
kill-only acceptor `killOK`, and `Model/Recover.lean` (`recover` = what `DB.Open` and the first `Pos()`
do with the meta directory). Tie: (T) the regenerated publish protocols `Gen.publishProtocols` (all of
them — the missing directory fsync of F8 is irrelevant under kill semantics); (C) the kill engine
`harness/cmd/c03` (real process killed before every file-system-mutating call, then restarted).

What is proved here is the file-system level of the property. The DB-level continuation ("the next
acknowledged sync restores exactly as in C01") needs the sync invariant of C01/C04 and is covered by the
kill engine only; the corresponding theorem is therefore named `kill_then_recover_partial`.
-/
namespace Litestream.C03
open Litestream.Fs

theorem gen_protocols_killOK : ∀ p ∈ Gen.publishProtocols, killOK (traceOf p) = true := by decide

/-- The `recover` model's first step is what the code does: `DB.Open` calls `removeTmpFiles(db.metaPath)`
    on its success path before the DB is marked opened, and `removeTmpFiles` removes the `.tmp` names
    (regenerated fact; the kill engine additionally checks that no `*.tmp` survives `Open`). -/
theorem gen_open_removes_tmp : Gen.openRemovesTmp = true := by decide

/-- The retry's first step is enabled in every killed state: no publishing function creates its staging
    file exclusively (`O_EXCL`), so a stale `<name>.tmp` left by a kill is simply truncated by the retry
    (`create` in the model always succeeds). Regenerated from the open flags in /repo. -/
theorem gen_no_exclusive_staging : Gen.exclusiveStagingCreates = [] := by decide

/-- A visible final name shows a file that is never written again. -/
theorem kill_no_partial (tr : List Event) (h : killOK tr = true) :
    ∀ (k : Nat) (p : Path) (i : Nat), p.final = true → (killState tr k).vol p = some i →
      Complete tr i ((killState tr k).written i) :=
  fun k _ _ hp hv => sealed_complete h k ((kinv_killState h k).sealV hp hv)

/-- `kill_no_partial` for every publish protocol of /repo: nothing is ever written directly under a final name and
    the rename happens after the last write. -/
theorem no_partial_final :
    ∀ p ∈ Gen.publishProtocols, ∀ (k : Nat) (n : Path) (i : Nat), n.final = true →
      (killState (traceOf p) k).vol n = some i → Complete (traceOf p) i ((killState (traceOf p) k).written i) :=
  fun p hp => kill_no_partial (traceOf p) (gen_protocols_killOK p hp)

/-- File-system level only (`_partial`, see the head). After a kill at any instant `recover` (= `Open`) succeeds
    without manual intervention; afterwards no staging name is left in the meta tree, every visible final name is
    complete and unchanged, and the position is at least the max TXID of every local LTX file visible at the kill. -/
theorem kill_then_recover_partial (tr : List Event) (h : killOK tr = true) (names : List Path) (k : Nat) :
    ∃ s' pos, recover names (run tr).written (killState tr k) = .ok (s', pos) ∧
      (∀ p ∈ names, p.final = false → p.tree = 0 → s'.vol p = none) ∧
      (∀ p i, p.final = true → s'.vol p = some i → s'.written i = (run tr).written i) ∧
      (∀ p, p.final = true → s'.vol p = (killState tr k).vol p) ∧
      (∀ p ∈ names, p.final = true → p.tree = 0 → 0 < p.max → (killState tr k).vol p ≠ none → p.max ≤ pos) := by
  obtain ⟨hvol, hwr⟩ := removeTmp_spec names (killState tr k)
  have hfin : ∀ p, p.final = true → (removeTmp names (killState tr k)).vol p = (killState tr k).vol p :=
    fun p hp => by rw [hvol, if_neg]; simp [hp]
  have hver : ∀ p i, p.final = true → (removeTmp names (killState tr k)).vol p = some i →
      (removeTmp names (killState tr k)).written i = (run tr).written i :=
    fun p i hp hv => by
      rw [hwr]
      show Complete tr i ((killState tr k).written i)
      exact kill_no_partial tr h k p i hp (hfin p hp ▸ hv)
  obtain ⟨pos, hrec, hpos⟩ := recover_ok names _ _ hver
  exact ⟨_, pos, hrec, fun p hp hf ht => by rw [hvol, if_pos ⟨hp, hf, ht⟩], hver, hfin,
    fun p hp hf ht hm hv => hpos p (mem_localLtx.mpr ⟨hp, hf, ht, hm, hfin p hf ▸ hv⟩)⟩

/-- An LTX file visible when an operation reported success (`ok n` after `pre`) is — after a kill at any later
    instant (`mid` = calls made since) followed by `recover` — still superseded-or-equalled by a visible,
    complete LTX file. (So every restore chain acknowledged before the kill is still there after restart.) -/
theorem acked_survive (pre mid post : List Event) (n : Nat)
    (h : flushOK (pre ++ .ok n :: (mid ++ post)) = true) (names : List Path)
    (f : Path) (i : Nat) (hf : f.final = true) (hmax : 0 < f.max) (hv : (run pre).vol f = some i) :
    ∃ s' pos g j,
      recover names (run (pre ++ .ok n :: (mid ++ post))).written
        (killState (pre ++ .ok n :: (mid ++ post)) (pre ++ .ok n :: mid).length) = .ok (s', pos) ∧
      Supersedes g f ∧ s'.vol g = some j ∧
      s'.written j = (run (pre ++ .ok n :: (mid ++ post))).written j := by
  have hmay := (C11.ack_durable pre mid post n h f i hf hv).1
  have h' : flushOK (pre ++ (.ok n :: mid) ++ post) = true := by simpa using h
  obtain ⟨g, hg, -, hdg⟩ := C11.delete_safe pre (.ok n :: mid) post h' f hf hmax (durablyVisible_of_may hmay)
  have hks : killState (pre ++ .ok n :: (mid ++ post)) (pre ++ .ok n :: mid).length = run (pre ++ .ok n :: mid) := by
    unfold killState
    rw [show pre ++ .ok n :: (mid ++ post) = (pre ++ .ok n :: mid) ++ post by simp, List.take_left]
  obtain ⟨s', pos, hrec, -, hcomp, hsame, -⟩ :=
    kill_then_recover_partial _ (flushOK_killOK h) names (pre ++ .ok n :: mid).length
  cases hj : (run (pre ++ .ok n :: mid)).vol g with
  | none => exact absurd hj (hdg _ ((fsInv_run _).volMay g))
  | some j =>
    have hs : s'.vol g = some j := by rw [hsame g hg.1, hks, hj]
    exact ⟨s', pos, g, j, hrec, hg, hs, hcomp g j hg.1 hs⟩

private def t : Path := ⟨1, 1, false, 0, 0, 0⟩
private def f1 : Path := ⟨1, 2, true, 0, 1, 1⟩
private def good : List Event := [.create t, .write t, .write t, .fsync t, .close t, .rename t f1, .fsyncDir 1, .ok 1]

example : killOK good = true := by decide
/-- killed between the two writes: a staging file is left behind, `recover` removes it, position 0 -/
example : (recover [t, f1] (run good).written (killState good 2)).toOption.map (·.2) = some 0 := by decide
/-- killed after the rename: the file is visible, complete, and the position is its TXID -/
example : (recover [t, f1] (run good).written (killState good 6)).toOption.map (·.2) = some 1 := by decide
/-- writing directly under the final name is rejected, and a kill really exposes a half-written file -/
example : killOK [.create f1, .write f1, .write f1] = false := by decide
example : ¬ Complete [.create f1, .write f1, .write f1] 0 ((killState [.create f1, .write f1, .write f1] 2).written 0) := by decide
/-- renaming before the data is complete is rejected (the later write goes to the final name) -/
example : killOK [.create t, .write t, .rename t f1, .write f1] = false := by decide
/-- an unverifiable highest file makes `recover` fail loudly -/
example : (recover [f1] (run [.create f1, .write f1, .write f1]).written (killState [.create f1, .write f1, .write f1] 2)).toOption = none := by decide

/-! ## Known finding (KNOWN_FINDINGS `C03/follow-inplace-output-malformed`)

`restore -follow` (replica.go: follow → applyLTXFile) writes the pages of every new LTX file directly into
the already published output database. In the model that is a `write` under a final name: exactly what
`killOK` forbids, so the hypothesis of `kill_no_partial` is the complement of the finding's signature.
The full-strength statement ("every history of the real system is kill-safe") is false on this witness. -/

private def outDb : Path := ⟨3, 1, true, 2, 0, 0⟩
private def outTmp : Path := ⟨3, 2, false, 2, 0, 0⟩
/-- restore publishes the output, acknowledges, then the follower applies two pages in place and syncs -/
def followInPlaceWitness : List Event :=
  [.create outTmp, .write outTmp, .fsync outTmp, .close outTmp, .rename outTmp outDb, .fsyncDir 3, .ok 1,
   .write outDb, .write outDb, .fsync outDb]

theorem follow_inplace_not_killOK : killOK followInPlaceWitness = false := by decide

/-- killed between the two page writes, the output path shows an incomplete file -/
theorem follow_inplace_partial_visible :
    (killState followInPlaceWitness 8).vol outDb = some 0 ∧
    ¬ Complete followInPlaceWitness 0 ((killState followInPlaceWitness 8).written 0) := by decide

end Litestream.C03
