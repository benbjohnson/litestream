import Litestream.Lemmas.Follow
import Litestream.Gen.Follow
/-!
C16 — follow-mode restore converges and resumes correctly after being killed.
-/
namespace Litestream.C16
open Litestream Litestream.Follow

/-- L-catchup as explicit hypothesis (DESIGN §2): the semantic contract of `ltx.Compactor` +
    growth-complete level-0 files (property C06); it is assumed here, not proved. -/
def CatchUp (T : List Body) (r : Replica) : Prop :=
  ∀ rf ∈ r, ∀ c, rf.info.min ≤ c + 1 → c < rf.info.max →
    (truth T c).applyBody rf.body = truth T rf.info.max

theorem catchesUp {T : List Body} {r : Replica} (h : CatchUp T r) :
    CatchesUp RFile.info RFile.body Db.applyBody (fun d c => d = truth T c) r :=
  fun rf hrf c _ h1 h2 hd => hd ▸ h rf hrf c h1 h2

/-- A poll never regresses the sidecar and keeps the follower equal to the
    true state at its sidecar TXID. -/
theorem follow_step_sound {T : List Body} {r : Replica} (h : CatchUp T r) (fol : Fol)
    (hf : fol.db = truth T fol.txid) :
    (poll r fol).txid ≥ fol.txid ∧ (poll r fol).db = truth T (poll r fol).txid :=
  -- `content r` unfolds to `lookup RFile.info RFile.body r`, `Db.applyAll` to the `foldl` of `poll_chain`
  poll_chain (catchesUp h) fol.txid fol.db hf

/-- A two-transaction truth, level-0 files and their level-1 compaction satisfy `CatchUp`
    pointwise on the pages that exist. -/
def exT : List Body := [⟨2, [(1, 11), (2, 12)]⟩, ⟨3, [(1, 21), (3, 23)]⟩]
def exR : Replica := [⟨⟨0, 1, 1, 0⟩, exT[0]!⟩, ⟨⟨0, 2, 2, 0⟩, exT[1]!⟩, ⟨⟨1, 1, 2, 0⟩, ⟨3, [(1, 21), (2, 12), (3, 23)]⟩⟩]
example : (poll exR ⟨truth exT 0, 0⟩).txid = 2 ∧
    ((poll exR ⟨truth exT 0, 0⟩).db.size = (truth exT 2).size) ∧
    ([1, 2, 3, 4].map (poll exR ⟨truth exT 0, 0⟩).db.get = [1, 2, 3, 4].map (truth exT 2).get) := by decide

/-- `follow_converges` (partial): against a replica that no longer changes, if every poll below the
    newest TXID `N` makes progress, some number of polls reaches exactly `⟨truth N, N⟩`.
    The progress hypothesis is what "bridgeable" provides (a level-0 file at `c+1`, or a level 1–8
    file with `min ≤ c+1 < max+1`, is found because listings are sorted); that implication is NOT
    proved here — the engine checks it on the real code against an independent chain oracle. -/
theorem follow_converges_partial {T : List Body} {r : Replica} (h : CatchUp T r)
    (hprog : ∀ c, c < maxInfoTx (infos r) → c < pollTxid (infos r) c) :
    ∀ (k : Nat) (fol : Fol), fol.db = truth T fol.txid → fol.txid ≤ maxInfoTx (infos r) →
      maxInfoTx (infos r) - fol.txid ≤ k →
      ∃ n, (pollN r n fol).txid = maxInfoTx (infos r) ∧ (pollN r n fol).db = truth T (maxInfoTx (infos r)) := by
  intro _ fol hf hle _
  obtain ⟨n, h1, h2⟩ := iterate_reaches (iter := pollN r) (fun _ => rfl) (fun _ _ => rfl) (·.txid)
    (fun fol => fol.db = truth T fol.txid) (maxInfoTx (infos r))
    (fun fol hf hlt => ⟨(follow_step_sound h fol hf).2, hprog _ hlt, pollTxid_le_max _ _ (Nat.le_of_lt hlt)⟩)
    fol hf hle
  exact ⟨n, h1, h1 ▸ h2⟩

theorem run_pollSteps (r : Replica) (fol : Fol) : fol.run (pollSteps r fol) = poll r fol := by
  unfold pollSteps poll
  rw [run_append, run_bodies]
  split
  · rfl
  next ht =>
    -- the TXID did not advance (it never goes back), so the sidecar already holds it
    exact congrArg (Fol.mk _) (Nat.le_antisymm (le_pollTxid _ _) (Nat.le_of_not_lt ht))

/-- `follow_kill_resume` (partial): a kill at ANY point before the last effect of a poll leaves
    the sidecar at the old TXID — so the restarted follower computes the same plan from the same
    listing and writes every page of every (half-)applied file again, followed by the same
    truncates — and a poll that runs to completion equals the atomic poll (`run_pollSteps`).
    Missing for the full statement (`poll r (killAt r fol k) = poll r fol`): the page-level
    congruence lemma (re-applying a chain of files is insensitive to pages that the chain
    rewrites or truncates); the engine covers it with SIGKILL at reader-event granularity. -/
theorem follow_kill_resume_partial (r : Replica) (fol : Fol) (k : Nat)
    (hk : k < (pollSteps r fol).length) :
    (killAt r fol k).txid = fol.txid ∧
      pollPlan (infos r) (killAt r fol k).txid = pollPlan (infos r) fol.txid := by
  have h1 : (killAt r fol k).txid = fol.txid := by
    unfold killAt
    rw [take_pollSteps hk]
    refine run_no_sidecar _ (fun t ht => ?_) fol
    obtain ⟨b, _, hb⟩ := List.mem_flatMap.mp (List.mem_of_mem_take ht)
    exact bodySteps_no_sidecar b t hb
  exact ⟨h1, by rw [h1]⟩

/-- A chain of files of levels 0..8 leads from `c` to the newest TXID (what `applyNewLTXFiles`
    needs in order to catch up). Executable: fuel = number of files. -/
def bridgeFrom (fs : List FileInfo) : Nat → Nat → Nat
  | 0, c => c
  | fuel+1, c =>
    let c' := fs.foldl (fun m f => if f.level < snapshotLevel ∧ f.min ≤ c + 1 ∧ m < f.max then f.max else m) c
    if c' = c then c else bridgeFrom fs fuel c'

def Bridgeable (fs : List FileInfo) (c : Nat) : Prop := bridgeFrom fs fs.length c = maxInfoTx fs

instance (fs c) : Decidable (Bridgeable fs c) := by unfold Bridgeable; infer_instance

/-- Full-strength statement (for the validation variant `b`): a sidecar TXID that is not beyond
    the replica, not pruned (every snapshot starts at TXID 1, `WF`), and from which the newest TXID
    is bridgeable, is accepted by `Restore`'s crash-recovery validation. -/
def ResumeAccepts (b : ResumeBound) : Prop :=
  ∀ (fs : List FileInfo) (txid : Nat), 1 ≤ txid → txid ≤ maxInfoTx fs → Bridgeable fs txid →
    (∀ f ∈ fs, f.level ≤ snapshotLevel ∧ (f.level = snapshotLevel → f.min = 1)) →
    resumeCheck b fs txid = .ok ()

/-- Witness of F5: snapshot at TXID 1, level-0 files 1..4, follower applied up to TXID 4. -/
def f5Listing : List FileInfo :=
  [⟨9, 1, 1, 0⟩, ⟨0, 1, 1, 0⟩, ⟨0, 2, 2, 1⟩, ⟨0, 3, 3, 2⟩, ⟨0, 4, 4, 3⟩]

theorem f5_witness_meets_hypotheses :
    1 ≤ 4 ∧ 4 ≤ maxInfoTx f5Listing ∧ Bridgeable f5Listing 4 ∧
      (∀ f ∈ f5Listing, f.level ≤ snapshotLevel ∧ (f.level = snapshotLevel → f.min = 1)) := by decide

theorem f5_witness_rejected : resumeCheck .latestSnapshot f5Listing 4 = .error .aheadOfSnapshot := by decide

/-- `follow_resume_accepts` is FALSE of the code as it stands at the pinned commit
    (F5, replica.go:655: the bound is the newest snapshot). -/
theorem follow_resume_accepts_false : ¬ ResumeAccepts .latestSnapshot := fun h =>
  have ⟨h1, h2, h3, h4⟩ := f5_witness_meets_hypotheses
  nomatch (h f5Listing 4 h1 h2 h3 h4).symm.trans f5_witness_rejected

/-- What the pinned code does guarantee: the complement of the finding's signature
    (`sidecar > newest snapshot max`) as explicit hypothesis. -/
theorem follow_resume_accepts_partial (fs : List FileInfo) (txid : Nat) (h1 : 1 ≤ txid)
    (hs : ∀ s, (listLevel fs snapshotLevel).getLast? = some s → s.min ≤ txid ∧ txid ≤ s.max) :
    resumeCheck .latestSnapshot fs txid = .ok () :=
  resumeCheck_ok .latestSnapshot fs txid h1 hs

/-- Right after the initial restore (sidecar = snapshot max). -/
example : resumeCheck .latestSnapshot [⟨9, 1, 3, 0⟩, ⟨0, 4, 4, 1⟩] 3 = .ok () := by decide

/-- With the repaired bound (`Gen.resumeBound = .replicaMax`, proposed-fixes/F5.diff) the statement
    holds at full strength. -/
theorem follow_resume_accepts_fixed : ResumeAccepts .replicaMax := by
  intro fs txid h1 hmax _ hwf
  refine resumeCheck_ok .replicaMax fs txid h1 (fun s hl => ?_)
  have ⟨hsfs, hslvl⟩ := mem_listLevel.mp (List.mem_of_getLast? hl)
  have hmin : s.min = 1 := (hwf s hsfs).2 hslvl
  refine ⟨hmin ▸ h1, Nat.le_trans hmax (maxInfoTx_le_iff.mpr fun f hf => ?_)⟩
  -- a file below the snapshot level is counted by the bound itself, a snapshot by the latest one
  by_cases hlv : f.level < snapshotLevel
  · exact Nat.le_trans (mem_le_maxInfoTx (List.mem_filter.mpr ⟨hf, decide_eq_true hlv⟩)) (Nat.le_max_right _ _)
  · have heq : f.level = snapshotLevel := Nat.le_antisymm (hwf f hf).1 (Nat.le_of_not_lt hlv)
    have hfmin : f.min = 1 := (hwf f hf).2 heq
    refine Nat.le_trans ?_ (Nat.le_max_left _ _)
    -- both start at TXID 1 and `s` is listed last
    rcases le_getLast (listLevel_pairwise fs snapshotLevel) hl f (mem_listLevel.mpr ⟨hf, heq⟩) with rfl | hle
    · exact Nat.le_refl _
    · omega

example : resumeCheck .replicaMax f5Listing 4 = .ok () := by decide

/-- The statement about the working tree, whichever validation it contains: proved for both
    variants, instantiated at the regenerated `Gen.resumeBound`.  With the pinned commit this is
    the `…_partial` statement (F5 excluded by hypothesis); with the repair it is the full one. -/
def ResumeAcceptsCurrent (b : ResumeBound) : Prop :=
  match b with
  | .replicaMax => ResumeAccepts .replicaMax
  | .latestSnapshot => ∀ (fs : List FileInfo) (txid : Nat), 1 ≤ txid →
      (∀ s, (listLevel fs snapshotLevel).getLast? = some s → s.min ≤ txid ∧ txid ≤ s.max) →
      resumeCheck .latestSnapshot fs txid = .ok ()

theorem follow_resume_accepts_current : ResumeAcceptsCurrent Gen.resumeBound := by
  cases h : Gen.resumeBound with
  | replicaMax => exact follow_resume_accepts_fixed
  | latestSnapshot => exact follow_resume_accepts_partial

/-- Ties of the model's constants to the regenerated facts (translator fact `Follow`). -/
theorem gen_gapLevels_eq : gapLevels = List.range' Gen.gapLevelLo (Gen.gapLevelHi - Gen.gapLevelLo) := by
  first | decide | rfl

theorem gen_snapshot_excluded : Gen.gapLevelHi = snapshotLevel := by first | decide | rfl

/-- `follow` writes the sidecar after `applyNewLTXFiles` (model: `pollSteps` ends with the sidecar). -/
theorem gen_sidecar_after_apply : Gen.followCalls = ["applyNewLTXFiles", "WriteTXIDFile"] := by
  first | rfl | decide

/-- `applyLTXFile`: pages are written before the truncate, with a sync in between and at the end
    (model: `bodySteps` = writes then `trunc`). -/
theorem gen_apply_order :
    Gen.applyCalls = ["OpenLTXFile", "LockFileExclusive", "DecodePage", "WriteAt", "Sync", "Truncate", "Sync"] := by
  first | rfl | decide

/-- `follow` decodes the page size of every legal SQLite page size correctly, 65536 included. -/
theorem decodePageSize_legal :
    ∀ ps ∈ [512, 1024, 2048, 4096, 8192, 16384, 32768, 65536],
      decodePageSize (encodePageSize ps).1 (encodePageSize ps).2 = ps := by decide

/-- (T) tie: the decode expression and its 64 KiB special case regenerated from `follow`
    (replica.go) are the model's. -/
theorem gen_follow_page_size : ∀ b0 b1, Gen.followPageSize b0 b1 = decodePageSize b0 b1 := by
  intro b0 b1
  first | rfl | (simp [Gen.followPageSize, decodePageSize])

end Litestream.C16
