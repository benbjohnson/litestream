import Litestream.Lemmas.SyncStep
import Litestream.Props.C06
/-!
# C01 — An acknowledged sync restores to exactly the source database

Page-level statement.  The source is any sequence of SQLite transactions;
litestream's rounds copy consecutive segments of them, incrementally
(`compact` of the per-transaction page sets = wal_reader.pageMap, tied to
SQLite's recovery rule by C09) or as a full snapshot (verify decisions: C04).
What is modelled rather than proved is listed in checks.d/C01.json.
-/
namespace Litestream
namespace C01
open Sy

theorem chain_equals_source {lock : Nat} {ss : List Step} {w : World}
    (hok : RunOK lock World.init ss) (hr : run lock World.init ss = some w) :
    (applyAll Db.empty w.files).Same w.truth ∧ GrowthComplete lock w.files ∧ (∀ x ∈ w.files, PagesOk lock x) := by
  have hi := inv_run (inv_init lock) hok hr
  exact ⟨hi.truth, hi.growth, hi.pagesOk⟩

/-- C01: if every level-0 file has been uploaded and the restore uses any valid chain `P` over them (C08 finds one;
    C06: any mix of levels), a successful restore is the source's committed state. -/
theorem ack_restores {lock : Nat} {ss : List Step} {w : World} {P : List Ltx} {G : Ltx} {img : Db}
    (hok : RunOK lock World.init ss) (hr : run lock World.init ss = some w)
    (hP : PlanChain lock [] w.files P) (hc : compact lock P = .ok G) (hd : decodeDb lock G = .ok img) :
    img.Same w.truth := by
  obtain ⟨h1, h2, h3⟩ := chain_equals_source hok hr
  exact (C06.plan_restore_eq_truth hP h3 h2 hc hd).trans h1

theorem ack_restores_size_lock {lock : Nat} {ss : List Step} {w : World} {P : List Ltx} {G : Ltx} {img : Db}
    (hok : RunOK lock World.init ss) (hr : run lock World.init ss = some w)
    (hP : PlanChain lock [] w.files P) (hc : compact lock P = .ok G) (hd : decodeDb lock G = .ok img) :
    img.size = w.truth.size ∧ img.page lock = 0 := by
  have h := ack_restores hok hr hP hc hd
  have hi := inv_run (inv_init lock) hok hr
  exact ⟨h.1, by rw [h.2 lock]; exact hi.lockZero⟩

/-- L-sync: one incremental round on its own. -/
theorem incremental_round_exact {lock : Nat} {w w' : World} {seg : List Txn}
    (hi : Inv lock w) (hok : StepOK lock w (.incr seg)) (hs : step lock w (.incr seg) = some w') :
    ∃ g, w'.files = w.files ++ [g] ∧ (w.truth.apply g).Same w'.truth := by
  obtain ⟨g, hg, rfl⟩ := step_eq_some hs
  exact ⟨g, rfl, (stepFile_ok hi hok hg).1⟩

def growthLinkB (lock : Nat) (a b : Ltx) : Bool :=
  (List.range' (a.commit + 1) (b.commit - a.commit)).all (fun p => p == lock || (b.look p).isSome)

theorem growthLink_of_B {lock : Nat} {a b : Ltx} (h : growthLinkB lock a b = true) : growthLink lock a b := by
  intro p h1 h2 h3
  have := List.all_eq_true.mp h p (List.mem_range'_1.mpr ⟨by omega, by omega⟩)
  simpa [h3] using this

def growthFromB (lock : Nat) : Ltx → List Ltx → Bool
  | _, [] => true
  | a, b :: t => growthLinkB lock a b && growthFromB lock b t

theorem growthFrom_of_B {lock : Nat} {fs : List Ltx} {a : Ltx} (h : growthFromB lock a fs = true) :
    growthFrom lock a fs := by
  induction fs generalizing a with
  | nil => trivial
  | cons b t ih =>
    rw [growthFromB, Bool.and_eq_true] at h
    exact ⟨growthLink_of_B h.1, ih h.2⟩

def segOKB (lock size next : Nat) (seg : List Txn) : Bool :=
  (txnFiles next seg).all (fun x => x.wf lock && x.wf 0) && growthFromB lock (sizeAnchor size) (txnFiles next seg)

theorem segOK_of_B {lock size next : Nat} {seg : List Txn} (h : segOKB lock size next seg = true) : SegOK lock size next seg := by
  unfold segOKB at h
  simp only [Bool.and_eq_true, List.all_eq_true] at h
  exact ⟨fun x hx => pagesOk_of_wf (h.1 x hx).1, fun x hx => pagesOk_of_wf (h.1 x hx).2, growthFrom_of_B h.2⟩

/-- A concrete history: create 3 pages; snapshot; grow to 5 pages rewriting page 2; shrink to 4; incremental sync. -/
def exSteps : List Step :=
  [.snap [⟨[(1, 11), (2, 12), (3, 13)], 3⟩],
   .incr [⟨[(2, 22), (4, 24), (5, 25), (1, 21)], 5⟩, ⟨[(1, 31), (3, 33)], 4⟩]]

/-- The world after the first round of `exSteps`, written out: from `step 9 World.init _ = some w1` the proof below gets
    `exWorld1 = w1` by computation. -/
def exWorld1 : World := ⟨applyAll Db.empty (txnFiles 1 [⟨[(1, 11), (2, 12), (3, 13)], 3⟩]),
  [snapFile 9 1 (applyAll Db.empty (txnFiles 1 [⟨[(1, 11), (2, 12), (3, 13)], 3⟩]))], 2⟩

example : RunOK 9 World.init exSteps := by
  refine ⟨segOK_of_B (by decide), ?_⟩
  intro w1 h1
  obtain rfl : exWorld1 = w1 := Option.some.inj h1
  refine ⟨⟨by decide, by decide, segOK_of_B (by decide)⟩, ?_⟩
  intro w2 _; trivial

example : ((run 9 World.init exSteps).map (fun w => (w.truth.size, (List.range 6).map w.truth.page)))
    = some (4, [0, 31, 22, 33, 24, 0]) := by decide

end C01
end Litestream
