import Litestream.Props.C01
/-!
# C02 — Every replicated TXID is one consistent committed state; TXIDs are monotone

On the page-level world of `Model/SyncStep.lean`: the k-th level-0 file is written at the end of round k, so
"TXID k" is the chain of the first k files.  Incremental files are cut at transaction ends: C09.
-/
namespace Litestream
namespace C02
open Sy

def txnsOf (ss : List Step) : List Txn := ss.flatMap stepSeg

def commitState (all : List Txn) (n : Nat) : Db := applyAll Db.empty (txnFiles 1 (all.take n))

theorem txnsOf_append (a b : List Step) : txnsOf (a ++ b) = txnsOf a ++ txnsOf b := List.flatMap_append

theorem run_facts {lock : Nat} {ss : List Step} {w w' : World} (h : run lock w ss = some w') :
    w'.truth = applyAll w.truth (txnFiles w.next (txnsOf ss)) ∧ w'.next = w.next + (txnsOf ss).length ∧
    ∃ ext, w'.files = w.files ++ ext ∧ ext.length = ss.length := by
  induction ss generalizing w with
  | nil => cases h; exact ⟨rfl, rfl, [], (List.append_nil _).symm, rfl⟩
  | cons s ss ih =>
    rw [run] at h
    split at h
    · cases h  -- the round fails
    next w1 hst =>
      obtain ⟨g, _, rfl⟩ := step_eq_some hst
      obtain ⟨b1, b2, ext, b3, b4⟩ := ih h
      refine ⟨?_, ?_, g :: ext, ?_, ?_⟩
      · rw [b1]; show _ = applyAll w.truth (txnFiles w.next (stepSeg s ++ txnsOf ss))
        rw [txnFiles_append, applyAll_append]
      · rw [b2]; show _ = w.next + (stepSeg s ++ txnsOf ss).length
        rw [List.length_append, Nat.add_assoc]
      · rw [b3, List.append_assoc]; rfl
      · rw [List.length_cons, b4, List.length_cons]

theorem run_take {lock : Nat} {ss : List Step} {w w' : World} (h : run lock w ss = some w') (k : Nat) :
    ∃ wk, run lock w (ss.take k) = some wk ∧ wk.files = w'.files.take (w.files.length + min k ss.length) := by
  rw [← List.take_append_drop k ss, run_append] at h
  obtain ⟨wk, hk, hd⟩ := Option.bind_eq_some_iff.mp h
  obtain ⟨_, _, e1, he1, hl1⟩ := run_facts hk
  obtain ⟨_, _, e2, he2, _⟩ := run_facts hd
  refine ⟨wk, hk, ?_⟩
  rw [he2, he1, List.take_left' (by rw [List.length_append, hl1, List.length_take])]

theorem txnsOf_take (ss : List Step) (k : Nat) : (txnsOf ss).take (txnsOf (ss.take k)).length = txnsOf (ss.take k) := by
  have : txnsOf ss = txnsOf (ss.take k) ++ txnsOf (ss.drop k) := by rw [← txnsOf_append, List.take_append_drop]
  rw [this, List.take_left' rfl]

/-- C02: any successful restore (any valid plan) over the first `k` level-0 files is the source's state after the
    transactions committed in the first `k` rounds — a transaction boundary of the source, nothing in between. -/
theorem txid_is_commit {lock : Nat} {ss : List Step} {w : World}
    (hok : RunOK lock World.init ss) (hr : run lock World.init ss = some w) (k : Nat) (hk : k ≤ ss.length)
    {P : List Ltx} {G : Ltx} {img : Db}
    (hP : PlanChain lock [] (w.files.take k) P) (hc : compact lock P = .ok G) (hd : decodeDb lock G = .ok img) :
    img.Same (commitState (txnsOf ss) (txnsOf (ss.take k)).length) := by
  obtain ⟨wk, hk1, hk2⟩ := run_take hr k
  rw [Nat.min_eq_left hk, show World.init.files.length + k = k from Nat.zero_add k] at hk2
  have h := C01.ack_restores (hok.take k) hk1 (hk2 ▸ hP) hc hd
  rw [(run_facts hk1).1] at h
  unfold commitState
  rw [txnsOf_take]
  exact h

/-- The engine's `txid-two-states` oracle is the observable side of this statement, with the snapshot-level file as
    the second plan. -/
theorem txid_denotes_one_state {lock : Nat} {ss : List Step} {w : World}
    (hok : RunOK lock World.init ss) (hr : run lock World.init ss = some w) (k : Nat) (hk : k ≤ ss.length)
    {P1 P2 : List Ltx} {G1 G2 : Ltx} {img1 img2 : Db}
    (hP1 : PlanChain lock [] (w.files.take k) P1) (hc1 : compact lock P1 = .ok G1) (hd1 : decodeDb lock G1 = .ok img1)
    (hP2 : PlanChain lock [] (w.files.take k) P2) (hc2 : compact lock P2 = .ok G2) (hd2 : decodeDb lock G2 = .ok img2) :
    img1.Same img2 :=
  (txid_is_commit hok hr k hk hP1 hc1 hd1).trans (txid_is_commit hok hr k hk hP2 hc2 hd2).symm

theorem txid_monotone (ss : List Step) {k1 k2 : Nat} (h : k1 ≤ k2) :
    (txnsOf (ss.take k1)).length ≤ (txnsOf (ss.take k2)).length := by
  have : ss.take k2 = ss.take k1 ++ (ss.drop k1).take (k2 - k1) := by
    rw [← List.take_add]; congr 1; omega
  rw [this, txnsOf_append, List.length_append]
  exact Nat.le_add_right _ _

/-- Each round that syncs writes exactly one level-0 file: after `n` rounds the files are numbered `1..n` with none
    missing or reused. -/
theorem l0_gapless {lock : Nat} {ss : List Step} {w : World} (hr : run lock World.init ss = some w) :
    w.files.length = ss.length := by
  obtain ⟨_, _, ext, he, hl⟩ := run_facts hr
  rw [he, ← hl]; rfl

/-! On the example history of C01, TXID 1 is the state after transaction 1 and TXID 2 the state after transaction 3. -/
example : (txnsOf (C01.exSteps.take 1)).length = 1 ∧ (txnsOf (C01.exSteps.take 2)).length = 3 := by decide

end C02
end Litestream
