import Litestream.Model.Verify
/-!
# C04 — When continuity with the WAL cannot be proven, litestream re-snapshots

Theorems about `Vf.verify` (model of `DB.verifyWithExecutor` *after* the repairs
of findings F1 and F2) judged against the generation world of `Model/Verify.lean`.
The decision model is compared with the real `verify` on every run by engine c04.
-/
namespace Litestream
namespace C04
open Vf

/-- Distinct generations have distinct salts (SQLite increments salt-1 and re-randomises salt-2 on every restart). -/
def SaltsDistinct (gs : List Gen) : Prop := (gs.map (·.salt)).Pairwise (· ≠ ·)

/-- The decision table read backwards. `verify` continues incrementally in one of two ways: in the same
    WAL generation, at the recorded position with the file's salts; or from the start of a new generation
    with the header's salts — after a truncation it expected, or (only with in-memory state) after a
    restart that `detectFullCheckpoint` attributes to litestream's own checkpoint. -/
theorem verify_incremental {i : VIn} (h : (verify i).snapshot = false) :
    i.posZero = false ∧ i.unresolved = false ∧
    ((i.hdrSalt = i.ltx.salt ∧ i.ltx.endIdx ≤ i.frames.length ∧
        (verify i).idx = i.ltx.endIdx ∧ (verify i).useHdrSalt = false) ∨
     ((verify i).idx = 0 ∧ (verify i).useHdrSalt = true ∧
        (i.frames.length < i.ltx.endIdx ∧ i.syncedToWALEnd = true ∨
         i.hdrSalt ≠ i.ltx.salt ∧ i.fresh = false ∧ i.ltx.endIdx ≤ i.frames.length))) := by
  revert h
  fun_cases verify i
  -- eight rows snapshot
  all_goals try exact fun h => Bool.noConfusion h
  -- the five that do not, in the order of the table: `next` names the conditions from the length test on, in the
  -- order of `verify`'s `if`s (the `_` after `hlen` is the `let saltMatch`)
  all_goals refine fun h => ⟨eq_false_of_ne_true ‹_›, eq_false_of_ne_true ‹_›, ?_⟩
  next hlen hse => -- truncation after a sync to the WAL end
    exact .inr ⟨rfl, rfl, .inl ⟨hlen, hse⟩⟩
  next hlen _ h0 hs => -- position at the WAL header
    exact .inl ⟨eq_of_beq hs, Nat.le_of_not_gt hlen, h0.symm, rfl⟩
  next hlen _ _ h1 hs => -- position one frame in
    exact .inl ⟨eq_of_beq hs, Nat.le_of_not_gt hlen, h1.symm, rfl⟩
  next hlen _ _ _ _ hs hf _ => -- salts changed, not fresh, no foreign salt seen
    exact .inr ⟨rfl, rfl, .inr ⟨by simpa +zetaDelta using hs, eq_false_of_ne_true hf, Nat.le_of_not_gt hlen⟩⟩
  next hlen _ _ _ _ hs => -- the ordinary case
    exact .inl ⟨by simpa +zetaDelta using hs, Nat.le_of_not_gt hlen, rfl, rfl⟩

/-- After a start or reopen (`fresh`, hence no `syncedToWALEnd`) `verify` continues incrementally only when the
    WAL header still carries the salts of the last replicated file and the WAL reaches the recorded position. -/
theorem fresh_incremental_only_same_generation (i : VIn) (hf : i.fresh = true) (he : i.syncedToWALEnd = false)
    (hp : i.posZero = false) (hinc : (verify i).snapshot = false) :
    i.hdrSalt = i.ltx.salt ∧ i.ltx.endIdx ≤ i.frames.length ∧
      (verify i).idx = i.ltx.endIdx ∧ (verify i).useHdrSalt = false := by
  -- (`hp` is not used: an incremental decision implies it)
  obtain ⟨-, -, h | ⟨-, -, ⟨-, h⟩ | ⟨-, h, -⟩⟩⟩ := verify_incremental hinc
  · exact h
  · rw [he] at h; cases h
  · rw [hf] at h; cases h

/-- A WAL restarted while litestream was away (header salts differ) or truncated or deleted (shorter than
    the recorded position) makes a start-up verify demand a full snapshot. -/
theorem fresh_restart_or_truncation_snapshots (i : VIn) (hf : i.fresh = true) (he : i.syncedToWALEnd = false)
    (hp : i.posZero = false) (h : i.hdrSalt ≠ i.ltx.salt ∨ i.ltx.endIdx > i.frames.length) :
    (verify i).snapshot = true := by
  cases hv : (verify i).snapshot with
  | true => rfl
  | false =>
    obtain ⟨hs, hl, -⟩ := fresh_incremental_only_same_generation i hf he hp hv
    exact h.elim (absurd hs) fun h => absurd hl (Nat.not_le_of_gt h)

/-! ### Soundness against the generation world

The live generation is the last one: `gs.getLast? = some l` is used as `gs = ys ++ [l]`. -/

theorem last_of_salt_eq {ys : List Gen} {l g : Gen} (hd : SaltsDistinct (ys ++ [l])) {c : Nat}
    (hc : (ys ++ [l])[c]? = some g) (hs : l.salt = g.salt) : c = ys.length := by
  by_cases hlt : c < ys.length
  · rw [List.getElem?_append_left hlt] at hc
    unfold SaltsDistinct at hd
    rw [List.map_append, List.pairwise_append] at hd
    exact absurd hs.symm (hd.2.2 g.salt (List.mem_map.mpr ⟨g, List.mem_of_getElem? hc, rfl⟩) l.salt (by simp))
  · have := (List.getElem?_eq_some_iff.mp hc).1
    simp at this; omega

theorem unseen_live (ys : List Gen) (l : Gen) (k : Nat) : unseen (ys ++ [l]) ys.length k = l.frames.drop k := by
  simp [unseen]

theorem continued_live (ys : List Gen) (l : Gen) (k : Nat) : continued (ys ++ [l]) k l.salt = l.frames.drop k := by
  simp [continued]

/-- A start-up (fresh) "incremental" decision replicates exactly the frames committed after the position —
    nothing missed, nothing repeated. -/
theorem fresh_incremental_sound (gs : List Gen) (hd : SaltsDistinct gs) (c k : Nat) (g l : Gen)
    (hc : gs[c]? = some g) (hl : gs.getLast? = some l)
    (frames : List PFrame) (pages : List (Nat × Nat))
    (hinc : (verify ⟨false, ⟨g.salt, k, pages⟩, l.salt, frames, false, true, false⟩).snapshot = false) :
    let out := verify ⟨false, ⟨g.salt, k, pages⟩, l.salt, frames, false, true, false⟩
    continued gs out.idx (if out.useHdrSalt then l.salt else g.salt) = unseen gs c k := by
  intro out
  obtain ⟨hs, -, hi, hu⟩ := fresh_incremental_only_same_generation _ rfl rfl rfl hinc
  obtain ⟨ys, rfl⟩ := List.getLast?_eq_some_iff.mp hl
  obtain rfl := last_of_salt_eq hd hc hs
  rw [show out.idx = k from hi, show out.useHdrSalt = false from hu, unseen_live, ← show l.salt = g.salt from hs]
  exact continued_live ys l k

/-- If any restart happened after the replicated position (the position's generation is not the live one),
    start-up verify snapshots — whatever the file looks like. -/
theorem missed_generation_implies_snapshot (gs : List Gen) (hd : SaltsDistinct gs) (c k : Nat) (g l : Gen)
    (hc : gs[c]? = some g) (hl : gs.getLast? = some l) (hne : c + 1 ≠ gs.length)
    (frames : List PFrame) (pages : List (Nat × Nat)) :
    (verify ⟨false, ⟨g.salt, k, pages⟩, l.salt, frames, false, true, false⟩).snapshot = true := by
  apply fresh_restart_or_truncation_snapshots _ rfl rfl rfl
  left
  intro hs
  obtain ⟨ys, rfl⟩ := List.getLast?_eq_some_iff.mp hl
  exact hne (by rw [last_of_salt_eq hd hc hs, List.length_append]; rfl)

/-- While running (in-memory state present), the only restart litestream does
    not snapshot after is its own: position at the sealed end of the previous
    generation and exactly one new generation.  Then "incremental" is sound. -/
theorem running_own_checkpoint_sound (gs : List Gen) (g n : Gen) (hlast : gs.getLast? = some g)
    (frames : List PFrame) (pages : List (Nat × Nat)) (se : Bool)
    (hsalt : n.salt ≠ g.salt) (hlen : g.frames.length ≤ frames.length)
    (hinc : (verify ⟨false, ⟨g.salt, g.frames.length, pages⟩, n.salt, frames, se, false, false⟩).snapshot = false) :
    let out := verify ⟨false, ⟨g.salt, g.frames.length, pages⟩, n.salt, frames, se, false, false⟩
    continued (gs ++ [n]) out.idx (if out.useHdrSalt then n.salt else g.salt)
      = unseen (gs ++ [n]) (gs.length - 1) g.frames.length := by
  intro out
  -- (`hlen` is not used: after a truncation the incremental outcome is the same)
  obtain ⟨ys, rfl⟩ := List.getLast?_eq_some_iff.mp hlast
  obtain ⟨-, -, ⟨hs, -⟩ | ⟨hi, hu, -⟩⟩ := verify_incremental hinc
  · exact absurd hs hsalt
  · -- from the start of `n` with its salts: all of `n`, which is what follows the sealed end of `g`
    rw [show out.idx = 0 from hi, show out.useHdrSalt = true from hu]
    simp [continued, unseen]

/-- `unresolved`: a non-PASSIVE checkpoint ran but its follow-up failed. Such a checkpoint has no write
    barrier: it may have moved transactions into the database file (and TRUNCATE may have discarded their
    frames) that were never copied. -/
theorem checkpoint_unresolved_forces_snapshot (i : VIn) (hu : i.unresolved = true) : (verify i).snapshot = true := by
  cases hv : (verify i).snapshot with
  | true => rfl
  | false => rw [(verify_incremental hv).2.1] at hu; cases hu

/-! ### Finding F2 (repaired): what the missing `fresh` test allowed

World: generation A (salt 1) with 4 frames, litestream replicated 3 of them and
stopped; the application wrote the 4th frame, checkpointed, restarted the WAL
(generation B, salt 2, one frame).  The old code continued from B's header and
lost frame 4 of A. -/
def f2World : List Gen := [⟨1, [(2, 10), (3, 11), (4, 12), (5, 99)]⟩, ⟨2, [(2, 20)]⟩]
def f2In : VIn := ⟨false, ⟨1, 3, [(2, 10), (3, 11), (4, 12)]⟩, 2, overlay f2World, false, true, false⟩

theorem f2_old_code_continued : (verifyBeforeFix f2In).snapshot = false := by decide
theorem f2_old_code_lost_frames :
    continued f2World (verifyBeforeFix f2In).idx 2 ≠ unseen f2World 0 3 := by decide
theorem f2_repaired_snapshots : (verify f2In).snapshot = true := by decide

/-- `init` → `checkDatabaseBehindReplica`: the local position after start-up. -/
def initPos (localMax replicaMax : Nat) : Nat := if localMax ≥ replicaMax then localMax else replicaMax

/-- After start-up the next L0 TXID lies above everything already on the replica. -/
theorem snapshot_txid_above_replica (localMax replicaMax : Nat) : replicaMax < initPos localMax replicaMax + 1 := by
  unfold initPos; split <;> omega

/-- `Replica.syncOnce`'s upload loop: uploads `rpos+1 … dpos`, reports success. -/
def replicaSyncOk (dpos rpos : Nat) : Nat := if rpos < dpos then dpos else rpos

theorem no_silent_stall_partial (dpos rpos : Nat) (h : rpos ≤ dpos) : replicaSyncOk dpos rpos = dpos := by
  unfold replicaSyncOk; split <;> omega

/-- **Finding F3** (repaired in /repo by c352567; this keeps the arithmetic of the old behaviour): a run-time `ResetLocalState` set the local
    position to 0 without `checkDatabaseBehindReplica`; the next file is TXID 1, not above
    the replica, and `Replica.Sync` succeeds while the replica stays where it was. -/
theorem f3_runtime_reset_breaks_both : ¬ (5 < 0 + 1) ∧ replicaSyncOk 1 5 ≠ 1 := by decide

example : SaltsDistinct f2World := by unfold SaltsDistinct f2World; decide
example : (verify ⟨false, ⟨1, 3, [(2, 10), (3, 11), (4, 12)]⟩, 1,
    [⟨1, 2, 10⟩, ⟨1, 3, 11⟩, ⟨1, 4, 12⟩, ⟨1, 5, 99⟩], false, true, false⟩) = ⟨false, 3, false, false, .none⟩ := by decide

end C04
end Litestream
