import Litestream.Lemmas.Ltx
import Litestream.Model.LockPage
import Litestream.Gen.LockPage
import Litestream.Gen.PageOffsets
/-!
# C17 — Databases crossing the 1 GiB lock page replicate and restore correctly

`emittedFromDB` / `emittedFromWAL` are the page-number lists `writeLTXFromDB` / `writeLTXFromWAL` (/repo/db.go)
hand to the LTX encoder; `decodeDb` is `Decoder.DecodeDatabaseTo`.  The loops and constants are regenerated from
source on every run (`Gen/LockPage.lean`) and tied below.
-/
namespace Litestream
namespace C17

theorem mem_growthPages {lock prev commit p : Nat} {m : List Nat} :
    p ∈ growthPages lock prev commit m ↔ (prev < p ∧ p ≤ commit) ∧ p ≠ lock ∧ p ∉ m := by
  unfold growthPages
  split
  · simp only [List.mem_filter, List.mem_range'_1, Bool.and_eq_true, decide_eq_true_eq, Bool.not_eq_true',
      List.contains_eq_mem, decide_eq_false_iff_not]
    exact and_congr_left' (by omega)
  next h => exact ⟨fun hp => absurd hp List.not_mem_nil, fun hp => absurd hp.1 (by omega)⟩

theorem mem_emittedFromWAL {lock prev commit p : Nat} {m : List Nat} :
    p ∈ emittedFromWAL lock prev commit m ↔ p ∈ m ∨ (prev < p ∧ p ≤ commit ∧ p ≠ lock) := by
  rw [emittedFromWAL, mem_sortU, List.mem_append, mem_growthPages]
  by_cases hm : p ∈ m <;> simp [hm, and_assoc]

/-- C17: no file litestream writes contains the lock page; for `writeLTXFromWAL`, unless the WAL itself holds a frame
    for it (which SQLite never writes; the encoder then refuses). -/
theorem lock_never_emitted (lock prev commit : Nat) (m : List Nat) :
    lock ∉ emittedFromDB lock commit ∧ (lock ∉ m → lock ∉ emittedFromWAL lock prev commit m) :=
  ⟨fun h => (mem_snapshotPgnos.mp h).2.2 rfl, fun hm h => (mem_emittedFromWAL.mp h).elim hm fun h => h.2.2 rfl⟩

/-- The pages of a snapshot are exactly what `DecodeDatabaseTo` demands. -/
theorem snapshot_pages_exact (lock commit : Nat) : emittedFromDB lock commit = snapshotPgnos lock commit := rfl

theorem snapshot_decodes {lock : Nat} {f : Ltx} (h1 : f.minTx = 1) (hk : f.keys = emittedFromDB lock f.commit) :
    decodeDb lock f = .ok ⟨f.commit, f.pages⟩ :=
  decodeDb_eq_ok_iff.mpr ⟨h1, hk, rfl⟩

theorem growth_pages_exact (lock prev commit : Nat) (m : List Nat) :
    (∀ p, p ∈ emittedFromWAL lock prev commit m ↔ p ∈ m ∨ (prev < p ∧ p ≤ commit ∧ p ≠ lock)) ∧
    ascending (emittedFromWAL lock prev commit m) = true :=
  ⟨fun _ => mem_emittedFromWAL, ascending_of_pairwise (pairwise_sortU _)⟩

/-- Restoring a snapshot leaves the lock page empty and reproduces every other page. -/
theorem decode_lock_zero {lock : Nat} {f : Ltx} {img : Db} (h : decodeDb lock f = .ok img) :
    img.size = f.commit ∧ img.page lock = 0 ∧
    ∀ p, p ≠ lock → 1 ≤ p → p ≤ f.commit → ∃ t, f.look p = some t ∧ img.page p = t := by
  obtain ⟨_, hk, _⟩ := decodeDb_eq_ok_iff.mp h
  have hmem : ∀ p, p ∈ f.keys ↔ 1 ≤ p ∧ p ≤ f.commit ∧ p ≠ lock := fun p => hk ▸ mem_snapshotPgnos
  -- decoding is applying to the empty database
  have hs := decode_same_apply h
  refine ⟨hs.1, ?_, fun p hpl hp1 hpc => ?_⟩
  · exact (hs.2 lock).trans
      (apply_lock_zero (look_eq_none_of_not_mem fun hm => ((hmem lock).mp hm).2.2 rfl) (empty_page lock))
  · obtain ⟨t, ht⟩ := Option.isSome_iff_exists.mp (look_isSome_iff.mpr ((hmem p).mpr ⟨hp1, hpc, hpl⟩))
    exact ⟨t, ht, by rw [hs.2, apply_page, if_pos hpc, ht]; rfl⟩

/-- The lock page is the page that starts at the pending byte (offset 1 GiB). -/
theorem lock_positions : ∀ ps ∈ pageSizes,
    lockPgno ps = 0x40000000 / ps + 1 ∧ (lockPgno ps - 1) * ps = 0x40000000 ∧ 2 ≤ lockPgno ps := by
  decide

theorem filter_ne_range'_of_outside {lock s n : Nat} (h : s + n ≤ lock ∨ lock < s) :
    (List.range' s n).filter (fun p => p ≠ lock) = List.range' s n := by
  apply List.filter_eq_self.mpr
  intro a ha
  rw [List.mem_range'_1] at ha
  exact decide_eq_true (by omega)

theorem lock_beyond {lock commit : Nat} (h : commit < lock) : emittedFromDB lock commit = List.range' 1 commit := by
  unfold emittedFromDB
  exact filter_ne_range'_of_outside (by omega)

theorem lock_inside {lock commit : Nat} (h1 : 1 ≤ lock) (h : lock ≤ commit) :
    emittedFromDB lock commit = List.range' 1 (lock - 1) ++ List.range' (lock + 1) (commit - lock) := by
  unfold emittedFromDB
  -- cut `1..commit` at the lock page
  have e := List.range'_append_1 (s := 1) (m := lock - 1) (n := commit - lock + 1)
  rw [show 1 + (lock - 1) = lock by omega, show lock - 1 + (commit - lock + 1) = commit by omega,
    List.range'_succ] at e
  rw [← e, List.filter_append, List.filter_cons]
  simp only [ne_eq, not_true_eq_false, decide_false, Bool.false_eq_true, if_false]
  rw [filter_ne_range'_of_outside (by omega), filter_ne_range'_of_outside (by omega)]

theorem lock_at_end {lock : Nat} (h1 : 1 ≤ lock) : emittedFromDB lock lock = List.range' 1 (lock - 1) := by
  rw [lock_inside h1 (Nat.le_refl _)]; simp

theorem lock_cases : ∀ ps ∈ pageSizes,
    emittedFromDB (lockPgno ps) (lockPgno ps + 2) = List.range' 1 (lockPgno ps - 1) ++ [lockPgno ps + 1, lockPgno ps + 2] ∧
    emittedFromDB (lockPgno ps) (lockPgno ps) = List.range' 1 (lockPgno ps - 1) ∧
    emittedFromDB (lockPgno ps) (lockPgno ps - 1) = List.range' 1 (lockPgno ps - 1) := by
  intro ps _
  have h1 : 1 ≤ lockPgno ps := Nat.le_add_left 1 _
  refine ⟨?_, lock_at_end h1, lock_beyond (by omega)⟩
  rw [lock_inside h1 (by omega), Nat.add_sub_cancel_left]
  rfl

/-- The sizes ltx's `IsValidPageSize` accepts, as its loop `for i := min; i <= max; i *= factor` visits them (first
    argument: fuel). -/
def geoSizes : Nat → Nat → Nat → Nat → List Nat
  | 0, _, _, _ => []
  | n+1, i, k, mx => if i ≤ mx then i :: geoSizes n (i*k) k mx else []

/-- (T) the constants and formula of the ltx module the repository builds against. -/
theorem gen_lock_constants :
    Gen.LockPage.pendingByte = pendingByte ∧ (∀ ps, Gen.LockPage.lockPgno ps = lockPgno ps) ∧
    pageSizes = geoSizes 64 Gen.LockPage.minPageSize Gen.LockPage.pageSizeFactor Gen.LockPage.maxPageSize := by
  -- in the ties to `Gen.LockPage`, first arm: the regenerated text is the model's; later arms: it is the same
  -- function written differently
  refine ⟨by first | rfl | decide, fun ps => ?_, by decide⟩
  first
    | rfl
    | (simp only [Gen.LockPage.lockPgno, lockPgno, Gen.LockPage.pendingByte, pendingByte]; omega)

/-- (T) `writeLTXFromDB`'s page loop in /repo/db.go is the model's `emittedFromDB`. -/
theorem gen_fromDB_loop (lock commit : Nat) :
    emittedFromDB lock commit =
      (List.range' Gen.LockPage.fromDBInit (commit + 1 - Gen.LockPage.fromDBInit)).filter
        (fun p => Gen.LockPage.fromDBCond p commit && !Gen.LockPage.fromDBSkip p lock) ∧
    Gen.LockPage.fromDBSkipsMapped = false := by
  refine ⟨?_, by first | rfl | decide⟩
  unfold emittedFromDB
  have : Gen.LockPage.fromDBInit = 1 := by first | rfl | decide
  rw [this, Nat.add_sub_cancel]
  apply List.filter_congr
  intro x hx
  rw [List.mem_range'_1] at hx
  simp [Gen.LockPage.fromDBCond, Gen.LockPage.fromDBSkip]; omega

/-- (T) `writeLTXFromWAL`'s growth loop in /repo/db.go is the model's `growthPages`. -/
theorem gen_fromWAL_loop (lock prev commit : Nat) (m : List Nat) :
    growthPages lock prev commit m =
      (if commit > prev then
        (List.range' (Gen.LockPage.fromWALInit prev) (commit + 1 - Gen.LockPage.fromWALInit prev)).filter
          (fun p => Gen.LockPage.fromWALCond p commit && !Gen.LockPage.fromWALSkip p lock &&
                    !(Gen.LockPage.fromWALSkipsMapped && m.contains p))
       else []) := by
  unfold growthPages
  split
  · have : Gen.LockPage.fromWALInit prev = prev + 1 := by first | rfl | (simp [Gen.LockPage.fromWALInit])
    rw [this, Nat.add_sub_add_right]
    apply List.filter_congr
    intro x hx
    rw [List.mem_range'_1] at hx
    have hc : Gen.LockPage.fromWALCond x commit = true := by simp [Gen.LockPage.fromWALCond]; omega
    have hs : Gen.LockPage.fromWALSkipsMapped = true := by first | rfl | decide
    simp [hc, hs, Gen.LockPage.fromWALSkip]
  · rfl

/-- Follow-mode restore applies one LTX file with `Db.apply` (/repo/replica.go `applyLTXFile`: write the pages, then
    resize the file to `Commit` pages — the resize also *extends*).  So the follower's lock page is present and empty
    although no file ever carries it, in particular when it is the last page (`f.commit = lock`). -/
theorem follow_apply_lock_zero {lock : Nat} (d : Db) (f : Ltx) (hok : PagesOk lock f) (hd : d.page lock = 0) :
    (d.apply f).size = f.commit ∧ (d.apply f).page lock = 0 ∧
    ∀ p, p ≠ lock → p ≤ f.commit → (d.apply f).page p = (f.look p).getD (d.page p) := by
  refine ⟨rfl, apply_lock_zero hok.2 hd, fun p _ hp => ?_⟩
  rw [apply_page, if_pos hp]

/-! ### integer widths of the page-offset arithmetic

The model computes `(pgno-1) * pageSize` in unbounded `Nat` and treats Go's integer conversions
as the identity, so it cannot see a product carried out in 32 bits (which wraps for database
offsets ≥ 4 GiB: page 65537 of a 64 KiB-page database would alias page 1).  The translator
therefore emits, from go/types, the bit width of every multiplication in statements of the root
package that mention a page size (writeLTXFromDB, writeLTXFromWAL, applyLTXFile, the WAL size
helpers, …); the theorems below pin it: every product is computed in 64 bits, no arithmetic is
narrowed, no 32-bit product is widened afterwards — and with that the model's unbounded
arithmetic agrees with the code's (`page_offset_fits_int64`). -/

theorem gen_page_offset_products_64bit : Gen.PageOffsets.offsetProducts.all (fun p => p.2.2 == 64) = true := by decide

/-- the page loops still compute their offsets in place (a helper would be listed above instead) -/
theorem gen_page_offset_anchors : Gen.PageOffsets.loopProducts.all (fun p => decide (1 ≤ p.2)) = true := by decide

theorem gen_page_offset_no_narrowing : Gen.PageOffsets.narrowingOfArithmetic = [] := by decide

theorem gen_page_offset_widened_no_product : Gen.PageOffsets.widenedNarrowArith.all (fun c => !c.2.2.2) = true := by decide

theorem page_offset_fits_int64 (pgno ps : Nat) (hp : pgno < 2 ^ 32) (hs : ps ≤ 65536) :
    (pgno - 1) * ps < 2 ^ 63 ∧ (pgno - 1) * ps + ps < 2 ^ 63 := by
  have h1 : (pgno - 1) * ps ≤ 2 ^ 32 * 65536 := Nat.mul_le_mul (by omega) hs
  omega

theorem offset_32bit_product_aliases : ((65537 - 1) * 65536) % 2 ^ 32 = (1 - 1) * 65536 ∧ (65537 - 1) * 65536 = 2 ^ 32 := by decide

/-- Page size 65536, growth from 16383 to 16387 pages across the lock page 16385. -/
example : emittedFromWAL (lockPgno 65536) 16383 16387 [2, 16384] = [2, 16384, 16386, 16387] := by decide

end C17
end Litestream
