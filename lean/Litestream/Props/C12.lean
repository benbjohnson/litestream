import Litestream.Lemmas.LockProtocols
import Litestream.Gen.Locks
/-! # C12 — Concurrent daemon operations are deadlock-free, leak no lock, register once

The general deadlock theorem, its instance on the lock protocol extracted from /repo on every run
(`Gen.Locks`, translator/fact_locks.go), and the protocol theorems for registration, `Close` and the snapshot
hand-off.

**Not covered by any theorem here: data-race freedom.** Memory accesses do not exist in this model;
the only support for that clause of C12 is the race-detector stress run of the engine.
-/
namespace Litestream.C12
open Litestream.Locks

/-- Covers mutexes, weight-1 semaphores (waits cancellable or not), RW locks in both modes with Go's
    writer-preference rule, try-acquisitions, WaitGroup waits. Bare channel receives are outside
    (`RankRespecting` rejects them). -/
theorem ranked_no_deadlock (rank : Nat → Nat) (ts : List Thread)
    (h0 : ∀ t ∈ ts, t.held = [] ∧ ReleasesAll t.rest ∧ RankRespecting rank (baseOf rank t.grp) t.rest)
    (s : State) (hr : Reachable (State.init ts) s) : ¬ Deadlocked s := by
  apply not_deadlocked_of_ok rank
  apply allOK_reachable rank _ hr
  intro t ht
  obtain ⟨hh, hb, hk⟩ := h0 t ht
  rw [threadOK_iff, hh]
  exact ⟨hk, hb⟩

/-- A system within the hypotheses: `execSem`(4), `chkMu`(7), `pos`(10), wait group 2. -/
def rankedDemo : List Thread :=
  [ { rest := [.acq 4 .W true, .acq 7 .R false, .acq 10 .W false, .rel 10 .W, .rel 4 .W, .rel 7 .R] },
    { rest := [.acq 4 .W false, .tryAcq 7 .W, .acq 10 .W false, .rel 10 .W, .rel 7 .W, .rel 4 .W] },
    { grp := some 2, rest := [.acq 4 .W true, .rel 4 .W] },
    { rest := [.wgWait 2, .acq 4 .W false, .rel 4 .W] } ]

def demoRank : Nat → Nat
  | 2 => 1 | 4 => 2 | 7 => 4 | 10 => 5 | _ => 0

example : ∀ t ∈ rankedDemo, t.held = [] ∧ ReleasesAll t.rest ∧ RankRespecting demoRank (baseOf demoRank t.grp) t.rest := by
  decide

example : explore rankedDemo = none := by decide +kernel

/-- Classic inversion. -/
def unrankedDemo : List Thread :=
  [ { rest := [.acq 1 .W false, .acq 2 .W false, .rel 2 .W, .rel 1 .W] },
    { rest := [.acq 2 .W false, .acq 1 .W false, .rel 1 .W, .rel 2 .W] } ]

theorem unranked_deadlocks : ∃ s, Reachable (State.init unrankedDemo) s ∧ Deadlocked s :=
  ⟨_, .step (.step .refl ⟨0, rfl⟩) ⟨1, rfl⟩, by decide⟩

example : explore unrankedDemo = some [0, 1] := by decide

example : ¬ ∃ rank : Nat → Nat, ∀ t ∈ unrankedDemo, RankRespecting rank 0 t.rest := by
  rintro ⟨rank, h⟩
  have h1 := h _ (List.mem_cons_self ..)
  have h2 := h _ (List.mem_cons_of_mem _ (List.mem_cons_self ..))
  simp [RankRespecting, rankFrom, rankAbove, applyHeld] at h1 h2
  omega

/-- Go's writer preference: re-entrant read locking deadlocks once a writer waits — and is a rank violation. -/
def rereadDemo : List Thread :=
  [ { rest := [.acq 8 .R false, .acq 8 .R false, .rel 8 .R, .rel 8 .R] },
    { rest := [.acq 8 .W false, .rel 8 .W] } ]

example : explore rereadDemo = some [0] := by decide
example : ¬ ∃ rank : Nat → Nat, ∀ t ∈ rereadDemo, RankRespecting rank 0 t.rest := by
  rintro ⟨rank, h⟩
  have h1 := h _ (List.mem_cons_self ..)
  simp [RankRespecting, rankFrom, rankAbove, applyHeld] at h1

/-- Defined next to the model because the driver judges observed traces with it. -/
abbrev rank : Nat → Nat := daemonRank

/-- The one exemption (the gap of `gen_lock_paths_ok_partial`). `DB.init` runs under `DB.mu` (write) and
    calls `Replica.Start`, which first calls `Replica.Stop(false)` = `cancel(); wg.Wait()`. The replica monitor
    itself takes `DB.mu.RLock` (`DB.Notify`), so by rank this wait is an inversion
    (`DB.mu → Replica.wg → DB.mu`) and a real deadlock if a monitor of that replica were running
    (see `init_wait_inversion_deadlocks`). In the daemon's flows it is not: `init` reaches `Replica.Start`
    only while `db.db == nil`, i.e. before the first start or after `DB.Close`, whose `Replica.Stop(true)`
    has already waited for the monitor, both under `execSem`. The wait is therefore on an empty group and
    cannot block; it is removed before judging the rank. ASSUMPTION A-init-wait-vacuous: nobody calls
    `Replica.Start` outside `DB.init` (the public API allows it). Supported by the stress engine's watchdog only. -/
def A_init_wait_vacuous (p : Path) : Path := dropWaitsUnder 8 5 [] p

/-- The inversion the exemption is about. -/
def initWaitDemo : List Thread :=
  [ { rest := [.acq 4 .W true, .acq 8 .W false, .wgWait 5, .rel 8 .W, .rel 4 .W] },
    { grp := some 5, rest := [.acq 8 .R false, .rel 8 .R] } ]

theorem init_wait_inversion_deadlocks : explore initWaitDemo = some [0, 0] := by decide

/-- One sweep of the table for `gen_lock_paths_ok_partial` and for conjunct (ii) of
    `snapshot_pos_atomic_partial`. -/
theorem gen_lock_paths_all : ∀ op ∈ Gen.Locks.lockPaths,
    pathOK rank 0 (A_init_wait_vacuous op.2) = true ∧ marksUnder 2 4 [] op.2 = true := by
  -- `decide`'s own `whnf` evaluation costs twice the kernel's and needs a raised recursion limit on a table of
  -- this size; the kernel alone evaluates it within the defaults. The same holds for the other tables below.
  decide +kernel

/-- Every extracted path of every anchored operation is balanced and
    releases everything on every return path; with the one exempted wait removed it respects `rank`.
    Full statement (not provable on the unchanged tree, see `A_init_wait_vacuous`):
    `∀ op ∈ Gen.Locks.lockPaths, Balanced op.2 ∧ RankRespecting rank 0 op.2 ∧ ReleasesAll op.2`. -/
theorem gen_lock_paths_ok_partial :
    ∀ op ∈ Gen.Locks.lockPaths,
      Balanced op.2 ∧ ReleasesAll op.2 ∧
      Balanced (A_init_wait_vacuous op.2) ∧ RankRespecting rank 0 (A_init_wait_vacuous op.2) ∧ ReleasesAll (A_init_wait_vacuous op.2) := by
  intro op hop
  have h := (pathOK_iff rank 0 _).mp (gen_lock_paths_all op hop).1
  -- removing the wait does not change what is held
  have h3 : ReleasesAll op.2 := by
    have := h.2.2
    rwa [ReleasesAll, A_init_wait_vacuous, heldAfter_dropWaitsUnder] at this
  exact ⟨balanced_of_releasesAll h3, h3, h⟩

theorem gen_monitor_paths_all : ∀ op ∈ Gen.Locks.monitorPaths,
    pathOK rank (baseOf rank (some op.2.1)) (A_init_wait_vacuous op.2.2) = true ∧ marksUnder 2 4 [] op.2.2 = true := by
  decide +kernel

/-- One iteration of every goroutine that a `WaitGroup` waits for only blocks on resources ranked above its group. -/
theorem gen_monitor_paths_ok :
    ∀ op ∈ Gen.Locks.monitorPaths,
      Balanced (A_init_wait_vacuous op.2.2) ∧ RankRespecting rank (baseOf rank (some op.2.1)) (A_init_wait_vacuous op.2.2) ∧
      ReleasesAll (A_init_wait_vacuous op.2.2) :=
  fun op hop => (pathOK_iff rank _ _).mp (gen_monitor_paths_all op hop).1

/-- Any number of goroutines, each running (the exempted
    form of) one extracted operation path or one monitor iteration, in any interleaving, never deadlock. -/
theorem gen_no_deadlock (ts : List Thread)
    (h : ∀ t ∈ ts, t.held = [] ∧
      ((t.grp = none ∧ ∃ op ∈ Gen.Locks.lockPaths, t.rest = A_init_wait_vacuous op.2) ∨
       (∃ op ∈ Gen.Locks.monitorPaths, t.grp = some op.2.1 ∧ t.rest = A_init_wait_vacuous op.2.2)))
    (s : State) (hr : Reachable (State.init ts) s) : ¬ Deadlocked s := by
  apply ranked_no_deadlock rank ts _ s hr
  intro t ht
  obtain ⟨hh, hcase⟩ := h t ht
  refine ⟨hh, ?_⟩
  rcases hcase with ⟨hg, op, hop, hrest⟩ | ⟨op, hop, hg, hrest⟩
  · obtain ⟨_, _, _, hk, hb⟩ := gen_lock_paths_ok_partial op hop
    rw [hrest, hg]
    exact ⟨hb, hk⟩
  · obtain ⟨_, hk, hb⟩ := gen_monitor_paths_ok op hop
    rw [hrest, hg]
    exact ⟨hb, hk⟩

/-! ## Double-checked registration (store.go: RegisterDB) -/

/-- (T) the statement shape of `Store.RegisterDB` is the one the protocol model transcribes. -/
theorem gen_register_shape : Gen.Locks.registerShape = registerShape := by decide

/-- `k ≥ 1` concurrent `RegisterDB(path)` calls, each with its own fresh instance, in ANY
    interleaving: once all calls have returned exactly one instance is registered; every other call either
    never opened its instance (`dEarly`) or opened and closed it again (`dDup`). -/
theorem register_once (k : Nat) (hk : 1 ≤ k) (s : Register.St) (hr : Register.Reach true k s)
    (hdone : ∀ i, i < k → Register.done (s.pc i)) :
    ∃ r, r < k ∧ s.dbs = [r] ∧ s.pc r = .dReg ∧
      ∀ j, j < k → j ≠ r → (s.pc j = .dEarly ∨ s.pc j = .dDup) := by
  have inv := Register.inv_reach hr
  -- call 0 has returned, so something is registered; the invariant allows at most one instance
  have hne : s.dbs ≠ [] := by
    rcases hdone 0 hk with h | h | h
    · exact inv.seen 0 (.inl h)
    · exact inv.seen 0 (.inr (.inr h))
    · exact List.ne_nil_of_mem ((inv.reg 0).mpr h)
  obtain ⟨r, hd⟩ := List.length_eq_one_iff.mp (Nat.le_antisymm inv.atMost (List.length_pos_iff.mpr hne))
  have hmem : ∀ j, s.pc j = .dReg ↔ j = r := fun j => by rw [← inv.reg, hd, List.mem_singleton]
  refine ⟨r, Nat.lt_of_not_le fun hle => ?_, hd, (hmem r).mpr rfl, fun j hj hne => ?_⟩
  · exact nomatch (inv.bound r hle).symm.trans ((hmem r).mpr rfl)
  · exact (hdone j hj).imp_right fun h => h.resolve_right fun hreg => hne ((hmem j).mp hreg)

/-- A complete run of two calls in which the second caller finds the first one's instance at its second check
    and closes its own. -/
example : ∃ s, Register.Reach true 2 s ∧ (∀ i, i < 2 → Register.done (s.pc i)) ∧ s.dbs = [0] := by
  obtain ⟨s, hr, hmu, hdbs, h0, h1⟩ := Register.race true
  exact ⟨_, .step (.step (.step hr (.lock2 (i := 1) (by decide) h1 hmu))
    (.found2 (i := 1) (by decide) rfl rfl (by simp [hdbs]))) (.close (i := 1) (by decide) rfl),
    fun | 0, _ => .inr (.inr h0) | 1, _ => .inr (.inl rfl), hdbs⟩

/-- Without the second check the protocol is wrong: two calls can both end up registered (what the
    engine's `regstorm` operation looks for on the real code). -/
theorem register_twice_without_second_check :
    ∃ s, Register.Reach false 2 s ∧ (∀ i, i < 2 → Register.done (s.pc i)) ∧ s.dbs = [0, 1] := by
  obtain ⟨s, hr, hmu, hdbs, h0, h1⟩ := Register.race false
  exact ⟨_, .step (.step hr (.lock2 (i := 1) (by decide) h1 hmu)) (.append (i := 1) (by decide) rfl (.inl rfl)),
    fun | 0, _ => .inr (.inr h0) | 1, _ => .inr (.inr rfl), by simp [hdbs]⟩

/-- (T) `Store.DBs` returns a copy of the registry (`slices.Clone(s.dbs)`), and no exported accessor of
    Store / DB / Replica / Compactor hands out one of the receiver's own slices or maps uncopied — the
    assumption under which the lock paths of the consumers (which walk the result without `Store.mu`) are
    complete. -/
theorem gen_accessors_return_copies :
    Gen.Locks.storeDBsReturn = storeDBsSnapshotExpr ∧ Gen.Locks.sharedContainerReturns = [] := by decide

/-- why it matters: with an aliased list a concurrent in-place delete makes the consumer skip an entry and
    meet a nil one; with a copy it sees exactly what it took. -/
theorem aliased_list_changes_underfoot :
    consumerSees true [some 0, some 1, some 2] 0 = [some 1, some 2, none] ∧
    consumerSees false [some 0, some 1, some 2] 0 = [some 0, some 1, some 2] := by decide

theorem copied_list_is_stable (view : List (Option Nat)) (i : Nat) : consumerSees false view i = view := rfl

/-! ## Close (db.go: DB.Close) -/

/-- Every extracted path of `DB.Close` — one per outcome of every cancellable wait and try
    inside it, i.e. under any cancellation of `ctx` — acquires the executor uncancellably, reaches
    `releaseReadLock` (marker 3) and then clears `db/f/rtx` under `DB.mu` (marker 4), and holds nothing at the end. -/
theorem close_releases :
    Gen.Locks.closePaths ≠ [] ∧ ∀ p ∈ Gen.Locks.closePaths, closePathOK p = true := by
  decide +kernel

/-- honouring cancellation in Close's acquire gives a path the predicate rejects. -/
example : closePathOK [.wgWait 2, .tryFail 4 .W] = false := by decide
example : closePathOK [.wgWait 2, .acq 4 .W false, .mark 3, .acq 8 .W false, .mark 4, .rel 8 .W, .rel 4 .W] = true := by decide

/-- (T) The read transaction is an acquire/release pair too: every way out of `DB.init` that took it either
    keeps it (success: `Close` releases it, `close_releases`) or rolls it back — the failure-cleanup defer calls
    `releaseReadLock` before it closes `db.db` and drops the handles. (`sql.DB.Close` only closes idle
    connections; a dropped, un-rolled-back transaction keeps its connection, SQLite's read lock and the
    descriptors on the database, WAL and shm files for the rest of the process.) -/
theorem gen_init_cleanup_releases_read_lock : Gen.Locks.initCleanupReleasesReadLock = true := by decide

/-! ## Snapshot position hand-off (db.go: snapshotPosition / checkpointWithExecutor) -/

/-- (i) on every path of `DB.Snapshot` the executor semaphore is held
    without a gap from the position capture to `chkMu.RLock`; (ii) on every path of every operation and
    monitor, the SQLite checkpoint (the only step that can restart the WAL) runs under the executor semaphore;
    (iii) for the projections of all `Snapshot` paths against all `Checkpoint`/`Sync` paths on
    {execSem, chkMu, markers}, exhaustive exploration of ALL interleavings of one snapshotter and one
    checkpointer finds no checkpoint step between capture and `chkMu.RLock`.
    (iii) follows from mutual exclusion of the weight-1 semaphore in the explorer's own transition system
    (`atomicRuns_init`, any number of threads), given that on the projections, too, captures and checkpoints
    happen under the semaphore.
    Gap (why partial): the projection's soundness (other events do not affect the order of the kept ones) and
    the tie between the explorer's verdict and the runs of `Reachable` are argued, not proved. -/
theorem snapshot_pos_atomic_partial :
    (∀ p ∈ Gen.Locks.snapshotPaths, windowHeld [] false p = true) ∧
    (∀ op ∈ Gen.Locks.lockPaths, marksUnder 2 4 [] op.2 = true) ∧
    (∀ op ∈ Gen.Locks.monitorPaths, marksUnder 2 4 [] op.2.2 = true) ∧
    (∀ a ∈ (Gen.Locks.snapshotPaths.map projHandoff).eraseDups,
      ∀ b ∈ ((Gen.Locks.checkpointPaths ++ Gen.Locks.syncPaths).map projHandoff).eraseDups, handoffAtomic a b = true) := by
  have hA : ∀ a ∈ (Gen.Locks.snapshotPaths.map projHandoff).eraseDups,
      marksUnder 1 4 [] a = true ∧ marksUnder 2 4 [] a = true := by decide
  have hB : ∀ b ∈ ((Gen.Locks.checkpointPaths ++ Gen.Locks.syncPaths).map projHandoff).eraseDups,
      marksUnder 1 4 [] b = true ∧ marksUnder 2 4 [] b = true := by decide
  exact ⟨by decide, fun op hop => (gen_lock_paths_all op hop).2, fun op hop => (gen_monitor_paths_all op hop).2,
    fun a ha b hb => handoffAtomic_of_marksUnder (hA a ha) (hB b hb)⟩

/-- the exploration does find the violation when the capture happens outside the semaphore. -/
example : handoffAtomic [.mark 1, .acq 4 .W false, .acq 7 .R false, .rel 4 .W, .rel 7 .R]
    [.acq 4 .W false, .tryAcq 7 .W, .mark 2, .rel 7 .W, .rel 4 .W] = false := by decide
example : handoffAtomic [.acq 4 .W false, .mark 1, .acq 7 .R false, .rel 4 .W, .rel 7 .R]
    [.acq 4 .W false, .tryAcq 7 .W, .mark 2, .rel 7 .W, .rel 4 .W] = true := by decide

end Litestream.C12
