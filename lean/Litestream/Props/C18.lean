import Litestream.Model.Vfs
import Litestream.Gen.Vfs
/-!
C18 — a VFS read replica serves the same pages as a full restore.
The model (Model/Vfs.lean) mirrors vfs.go including its defects; the full-strength statements are
kept as definitions, refuted on concrete witnesses (F6, F7, F7b, F11), and the part that does hold
is proved.
-/
namespace Litestream.Vfs
open Litestream Litestream.Follow

theorem Index.get_cons (e : Nat × Tok) (i : Index) (p : Nat) :
    Index.get (e :: i) p = if e.1 = p then some e.2 else Index.get i p := by
  by_cases h : e.1 = p <;> simp [Index.get, h]

/-- Merging `a` over `i` (what `pollReplicaClient` and `Unlock` do with `++`): `a` wins. -/
theorem Index.get_append (a i : Index) (p : Nat) : Index.get (a ++ i) p = (Index.get a p).or (Index.get i p) := by
  simp [Index.get, List.find?_append, Option.map_or]

theorem Index.addFile_eq (i : Index) (b : Body) : i.addFile b = b.pages.reverse ++ i :=
  (List.foldl_flip_cons_eq_append (f := id)).trans (by rw [List.map_id])

/-- The last frame for a page wins. -/
theorem lookPages_eq (ps : List (Nat × Tok)) (p : Nat) : lookPages ps p = Index.get ps.reverse p := by
  unfold lookPages
  rw [List.foldl_eq_foldr_reverse]
  induction ps.reverse with
  | nil => rfl
  | cons e i ih => rw [List.foldr_cons, ih, Index.get_cons]

theorem Index.get_addFile (i : Index) (b : Body) (p : Nat) :
    Index.get (i.addFile b) p = match b.look p with | some t => some t | none => Index.get i p := by
  rw [Index.addFile_eq, Index.get_append, Body.look, lookPages_eq]
  cases Index.get b.pages.reverse p <;> rfl

theorem pollLevel_nil {r : Replica} {level prevMax : Nat} (c : Nat)
    (h : seekLevel (infos r) level (prevMax + 1) = []) : pollLevel r level prevMax c = .ok ⟨prevMax, [], c, false⟩ := by
  unfold pollLevel
  rw [h]
  rfl

end Litestream.Vfs

namespace Litestream.C18
open Litestream Litestream.Follow Litestream.Vfs

def ViewEq (v : Vfs) (d : Db) : Prop :=
  fileSize v = d.size ∧ ∀ p, 1 ≤ p → p ≤ d.size → readPage v p = some (d.get p)

/-- Well-formed plan bodies: positive commits, page numbers within `1..commit`. -/
def planWF (plan : List RFile) : Bool :=
  !plan.isEmpty && plan.all (fun f => decide (f.body.commit > 0) && f.body.pages.all (fun e => decide (1 ≤ e.1) && decide (e.1 ≤ f.body.commit)))

/-- `vfs_open_eq_restore`, full strength. FALSE today (F6). -/
def OpenEqRestore : Prop := ∀ plan : List RFile, planWF plan = true → ViewEq (openVfs plan) (restorePlan plan)

/-- `vfs_poll_eq_restore`, full strength (one poll after an open is already enough to refute it).
    FALSE today (F7, F7b, F11). -/
def PollEqRestore : Prop :=
  ∀ (r : Replica) (plan new : List RFile), planWF (plan ++ new) = true →
    (poll r (openVfs plan)).pos = lastMax ((plan ++ new).map (·.info)) →
    ViewEq (poll r (openVfs plan)) (restorePlan (plan ++ new))

def snap3 : RFile := ⟨⟨9, 1, 1, 0⟩, ⟨3, [(1, 11), (2, 12), (3, 13)]⟩⟩
def shrink2 : RFile := ⟨⟨0, 2, 2, 1⟩, ⟨2, [(1, 21)]⟩⟩

/-- F6: open after a shrink reports the pre-shrink size. -/
theorem f6_witness : planWF [snap3, shrink2] = true ∧ fileSize (openVfs [snap3, shrink2]) = 3 ∧
    (restorePlan [snap3, shrink2]).size = 2 := by decide

theorem vfs_open_eq_restore_false : ¬ OpenEqRestore := fun h =>
  have ⟨hwf, hsize, hrestore⟩ := f6_witness
  absurd (show 3 = 2 from hsize.symm.trans ((h _ hwf).1.trans hrestore)) (by decide)

/-- F7: a poll that consumes a shrinking file replaces the whole index. -/
theorem f7_witness :
    (poll [snap3, shrink2] (openVfs [snap3])).pos = 2 ∧
    readPage (poll [snap3, shrink2] (openVfs [snap3])) 2 = none ∧
    (restorePlan [snap3, shrink2]).get 2 = 12 ∧ (restorePlan [snap3, shrink2]).size = 2 := by decide

theorem vfs_poll_eq_restore_false : ¬ PollEqRestore := fun h =>
  have ⟨hpos, hread, _, hsize⟩ := f7_witness
  have hview := h [snap3, shrink2] [snap3] [shrink2] f6_witness.1 hpos
  nomatch (hread.symm.trans (hview.2 2 (by decide) (Nat.le_of_eq hsize.symm)) : none = some _)

def snap2 : RFile := ⟨⟨9, 1, 1, 0⟩, ⟨2, [(1, 11), (2, 12)]⟩⟩
def g2 : RFile := ⟨⟨0, 2, 2, 1⟩, ⟨3, [(1, 21), (3, 23)]⟩⟩
def g3 : RFile := ⟨⟨0, 3, 3, 2⟩, ⟨4, [(1, 31), (4, 34)]⟩⟩
def l1g2 : RFile := ⟨⟨1, 2, 2, 3⟩, ⟨3, [(1, 21), (3, 23)]⟩⟩

/-- F7b: the same replacement without any shrink (level 1 lags behind level 0). Growth only:
    commits 2,3,4; the level-1 copy of TXID 2 (commit 3 < 4) triggers `replaceIndex`. -/
theorem f7b_witness :
    (poll [snap2, g2, g3, l1g2] (openVfs [snap2])).pos = 3 ∧
    readPage (poll [snap2, g2, g3, l1g2] (openVfs [snap2])) 2 = none ∧
    (restorePlan [snap2, g2, g3]).get 2 = 12 := by decide

def u2 : RFile := ⟨⟨0, 2, 2, 1⟩, ⟨2, [(1, 21), (2, 22)]⟩⟩
def u3 : RFile := ⟨⟨0, 3, 3, 2⟩, ⟨2, [(2, 32)]⟩⟩
def l1u2 : RFile := ⟨⟨1, 2, 2, 3⟩, ⟨2, [(1, 21), (2, 22)]⟩⟩

/-- F11: level-1 entries are merged over newer level-0 entries of the same poll. -/
theorem f11_witness :
    (poll [snap2, u2, u3, l1u2] (openVfs [snap2])).pos = 3 ∧
    readPage (poll [snap2, u2, u3, l1u2] (openVfs [snap2])) 2 = some 22 ∧
    (restorePlan [snap2, u2, u3]).get 2 = 32 := by decide

/-- The newest file of a list that contains page `p` (what a restore leaves on page `p` as long as
    the page is never truncated away). -/
def latest (bs : List Body) (p : Nat) : Option Tok :=
  bs.foldl (fun acc b => match b.look p with | some t => some t | none => acc) none

/-- `vfs_open_eq_restore` (partial, index half): the freshly built index maps every page to its newest
    version among the plan's files. -/
theorem vfs_open_index_latest (plan : List RFile) (p : Nat) :
    readPage (openVfs plan) p = latest (plan.map (·.body)) p := by
  show Index.get (buildIndexMap plan).1 p = _
  unfold buildIndexMap latest
  rw [List.foldl_map]
  exact (List.foldl_hom (fun acc : Index × Nat => Index.get acc.1 p)
    (fun acc f => (Index.get_addFile acc.1 f.body p).symm)).symm

/-- `vfs_time_travel` (partial): the time-travel view of a plan is the view `Open` builds from the
    same plan; it therefore inherits `vfs_open_index_latest` and F6. -/
theorem vfs_time_travel_eq_open (v : Vfs) (plan : List RFile) :
    (rebuild v plan true).index = (openVfs plan).index ∧ (rebuild v plan true).commit = (openVfs plan).commit ∧
      (rebuild v plan true).pos = (openVfs plan).pos ∧ (rebuild v plan true).pending = [] :=
  ⟨rfl, rfl, rfl, rfl⟩

theorem poll_idle (r : Replica) (v : Vfs)
    (h0 : seekLevel (infos r) 0 (v.pos + 1) = []) (h1 : seekLevel (infos r) 1 (v.maxTx1 + 1) = [])
    (hl : v.locked = false) (hm : v.maxTx1 ≤ v.pos) :
    (poll r v).index = v.index ∧ (poll r v).pos = v.pos ∧ (poll r v).commit = v.commit := by
  -- both levels return the empty result, so nothing is merged and `commit` stays; under time travel the state
  -- is returned as it is, otherwise `pos` becomes the larger of the two positions, which is `v.pos` by `hm`
  have hpos : (if v.pos > v.maxTx1 then v.pos else v.maxTx1) = v.pos := by split <;> omega
  cases ht : v.target <;>
    simp [Vfs.poll, pollReplica, pollLevel_nil _ h0, pollLevel_nil _ h1, hl, ht, hpos]

/-- (T) tie, regenerated from vfs.go on every run (translator fact `Vfs`): in `pollReplicaClient` the
    `targetTime` test sits inside the `f.mu` critical section that applies the polled updates — the
    model's `pollReplica` treats "if time travel is active then leave the state unchanged else apply"
    as one atomic step, which is only faithful when check and apply cannot be separated by a
    concurrent `SetTargetTime`. -/
theorem gen_poll_target_check_atomic : Gen.vfsPollTargetCheckAtomic = true := by
  first | decide | rfl

end Litestream.C18
