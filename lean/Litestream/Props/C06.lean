import Litestream.Lemmas.LtxChain
import Litestream.Lemmas.CompactLevel
import Litestream.Gen.CompactLoop
import Litestream.Gen.CacheLock
/-!
# C06 — Compaction never changes what is restored; levels stay contiguous

About `compact` (`ltx.Compactor.Compact`), `Db.apply`, `decodeDb` (`Decoder.DecodeDatabaseTo`) and `compactLevel`
(range selection of `litestream.Compactor.Compact`): the definitions the driver runs against the real code.
-/
namespace Litestream
namespace C06

/-- C06 (L-compact): a compacted file restores as its inputs applied in order and carries the newest input's
    timestamp. -/
theorem compact_equiv {lock : Nat} {f : Ltx} {rest : List Ltx} {g : Ltx}
    (hc : compact lock (f :: rest) = .ok g)
    (hok : ∀ x ∈ f :: rest, PagesOk lock x) (hg : GrowthComplete lock (f :: rest)) :
    (∀ d : Db, d.page lock = 0 → (applyAll d (f :: rest)).Same (d.apply g)) ∧
    g.ts = (lastOf f rest).ts ∧ g.commit = (lastOf f rest).commit ∧
    g.maxTx = (lastOf f rest).maxTx ∧ g.minTx = f.minTx := by
  have ok := compact_ok hc
  obtain ⟨h1, h2, h3⟩ := ok.lastEq f rest rfl
  exact ⟨compact_equiv_core hc ⟨hok, hg⟩, h3, h2, h1, ok.minTx f rest rfl⟩

/-- A shrinking-then-growing chain meeting all hypotheses. -/
example : ∃ g, compact 100 [⟨2, 2, 3, 10, [(1, 5), (3, 7)]⟩, ⟨3, 3, 2, 20, [(2, 6)]⟩, ⟨4, 5, 4, 30, [(3, 8), (4, 9)]⟩] = .ok g ∧
    g = ⟨2, 5, 4, 30, [(1, 5), (2, 6), (3, 8), (4, 9)]⟩ := ⟨_, rfl, rfl⟩

/-- Without growth-completeness the statement is false: the database shrinks to
    2 pages and grows back to 3 without the last file holding page 3; applying in
    order leaves page 3 zero, the compacted file resurrects the stale image. -/
theorem compact_equiv_needs_growth_complete :
    ∃ (fs : List Ltx) (g : Ltx), compact 100 fs = .ok g ∧ (∀ x ∈ fs, PagesOk 100 x) ∧
      (applyAll Db.empty fs).page 3 ≠ (Db.empty.apply g).page 3 :=
  ⟨[⟨2, 2, 3, 10, [(3, 7)]⟩, ⟨3, 3, 2, 20, [(2, 6)]⟩, ⟨4, 4, 3, 30, [(1, 4)]⟩], ⟨2, 4, 3, 30, [(1, 4), (2, 6), (3, 7)]⟩,
   rfl, fun x hx => pagesOk_of_wf (by simp at hx; rcases hx with h | h | h <;> subst h <;> decide), by decide⟩

/-- C06 (L-catchup): a compacted file overlapping what is already applied is harmless.  This is the planner's and
    ltx's contiguity relation `min ≤ cur+1 ∧ max > cur`. -/
theorem catchup {lock : Nat} {pre s1 s2 : List Ltx} {g : Ltx} (hc : compact lock (s1 ++ s2) = .ok g)
    (hok : ∀ x ∈ pre ++ s1 ++ s2, PagesOk lock x) (hg : GrowthComplete lock (pre ++ s1 ++ s2)) :
    ((applyAll Db.empty (pre ++ s1)).apply g).Same (applyAll Db.empty (pre ++ s1 ++ s2)) :=
  catchup_prefix hc ⟨hok, hg⟩

theorem plan_reaches_truth {lock : Nat} {l0 plan : List Ltx} (h : PlanChain lock [] l0 plan)
    (hok : ∀ x ∈ l0, PagesOk lock x) (hg : GrowthComplete lock l0) :
    (applyAll Db.empty plan).Same (applyAll Db.empty l0) :=
  planChain_apply h ⟨hok, hg⟩

/-- Sequential application, as the follower applies files. -/
theorem plan_independent {lock : Nat} {l0 P Q : List Ltx} (hP : PlanChain lock [] l0 P) (hQ : PlanChain lock [] l0 Q)
    (hok : ∀ x ∈ l0, PagesOk lock x) (hg : GrowthComplete lock l0) :
    (applyAll Db.empty P).Same (applyAll Db.empty Q) :=
  (plan_reaches_truth hP hok hg).trans (plan_reaches_truth hQ hok hg).symm

theorem plan_compact_eq_truth {lock : Nat} {l0 P : List Ltx} {G : Ltx} (hP : PlanChain lock [] l0 P)
    (hok : ∀ x ∈ l0, PagesOk lock x) (hg : GrowthComplete lock l0) (hc : compact lock P = .ok G) :
    (Db.empty.apply G).Same (applyAll Db.empty l0) :=
  (compact_equiv_core hc ⟨planChain_pagesOk hP hok, planChain_growthComplete hP hg⟩ Db.empty (empty_page lock)).symm.trans
    (plan_reaches_truth hP hok hg)

/-- C06: `Replica.Restore` (compact the plan files, then `DecodeDatabaseTo`) of a valid chain, whichever mix of levels
    and snapshots it uses, yields the L0 history applied in order. -/
theorem plan_restore_eq_truth {lock : Nat} {l0 P : List Ltx} {G : Ltx} {img : Db}
    (hP : PlanChain lock [] l0 P) (hok : ∀ x ∈ l0, PagesOk lock x) (hg : GrowthComplete lock l0)
    (hc : compact lock P = .ok G) (hd : decodeDb lock G = .ok img) :
    img.Same (applyAll Db.empty l0) :=
  (decode_same_apply hd).trans (plan_compact_eq_truth hP hok hg hc)

theorem plan_restore_independent {lock : Nat} {l0 P Q : List Ltx} {GP GQ : Ltx} {imgP imgQ : Db}
    (hP : PlanChain lock [] l0 P) (hQ : PlanChain lock [] l0 Q)
    (hok : ∀ x ∈ l0, PagesOk lock x) (hg : GrowthComplete lock l0)
    (hcP : compact lock P = .ok GP) (hdP : decodeDb lock GP = .ok imgP)
    (hcQ : compact lock Q = .ok GQ) (hdQ : decodeDb lock GQ = .ok imgQ) : imgP.Same imgQ :=
  (plan_restore_eq_truth hP hok hg hcP hdP).trans (plan_restore_eq_truth hQ hok hg hcQ hdQ).symm

/-- Compacting compacted segments (`P`: any chain of compactions of consecutive — even overlapping — runs of the L0
    files `l0`) restores to the same database as compacting `l0` directly.
    Partial: equality is stated on what a restore observes (size and every page image); that the two files also
    agree on *which* pages are stored explicitly (absent vs. explicit zero page) and on `ts`/`minTx`/`maxTx` is not
    mechanised — the engine's composition oracle checks exactly that on every real file. -/
theorem compact_assoc_partial {lock : Nat} {l0 P : List Ltx} {G F : Ltx}
    (hP : PlanChain lock [] l0 P) (hok : ∀ x ∈ l0, PagesOk lock x) (hg : GrowthComplete lock l0)
    (hcP : compact lock P = .ok G) (hcF : compact lock l0 = .ok F) :
    (Db.empty.apply G).Same (Db.empty.apply F) ∧ G.commit = F.commit := by
  have h := (plan_compact_eq_truth hP hok hg hcP).trans
    (compact_equiv_core hcF ⟨hok, hg⟩ Db.empty (empty_page lock))
  exact ⟨h, h.1⟩

/-- L0 files 1..3, plan [L1(1..2), L0(3)]. -/
example : PlanChain 100 [] [⟨1, 1, 2, 10, [(1, 5), (2, 6)]⟩, ⟨2, 2, 2, 20, [(2, 7)]⟩, ⟨3, 3, 3, 30, [(3, 8)]⟩]
    [⟨1, 2, 2, 20, [(1, 5), (2, 7)]⟩, ⟨3, 3, 3, 30, [(3, 8)]⟩] :=
  PlanChain.step (pre := []) (s1 := []) (s2 := [_, _]) (by simp) rfl
    (PlanChain.step (pre := [_, _]) (s1 := []) (s2 := [_]) (by simp) rfl (PlanChain.done _))

/-- C06, levels stay contiguous, for `Compactor.Compact(dst)` (compactor.go). -/
theorem level_wf_step {st st' : RState} {dst ts : Nat} {info : FileInfo} (h : RWF st)
    (hc : compactLevel st dst ts = .ok (st', info)) :
    RWF st' ∧ (st.files dst ≠ [] → info.min = endMax (st.files dst) + 1) ∧
    info.max = endMax (st.files (dst - 1)) ∧ 1 ≤ info.min ∧ info.min ≤ info.max ∧
    st'.files dst = st.files dst ++ [info] := by
  unfold compactLevel at hc
  split at hc
  · cases hc  -- nothing to compact
  next pk hp =>
    obtain ⟨hd0, f, t, hs, hwfs, rfl⟩ := compactPick_ok h hp
    obtain ⟨_, hend, hstart⟩ := sources_wf h hd0 hs
    simp only [Except.ok.injEq, Prod.mk.injEq] at hc
    obtain ⟨rfl, rfl⟩ := hc
    have hfb := hwfs.head
    have hle : f.min ≤ endMax (f :: t) := Nat.le_trans hfb.2 hwfs.max_le_endMax
    -- the new file ends where the level below ends, which is not empty: it holds the sources
    have hf : f ∈ st.files (dst - 1) := (List.mem_filter.mp (hs ▸ List.mem_cons_self : f ∈ sources st dst)).1
    -- `compactLevel` fills the cache of `dst` from the listing and then overwrites that very entry
    exact ⟨h.append_file hd0 (fillCache_other st dst) hfb.1 hle hstart (hend ▸ endMax_mem (List.ne_nil_of_mem hf)),
      hstart, hend, hfb.1, hle, setAt_self ..⟩

/-- L0 = 1..4, L1 = [1-2] (cached): `Compact(1)` writes 3-4. -/
example : (compactLevel ⟨fun l => if l = 0 then [⟨0,1,1,1⟩, ⟨0,2,2,2⟩, ⟨0,3,3,3⟩, ⟨0,4,4,4⟩] else if l = 1 then [⟨1,1,2,2⟩] else [],
    fun l => if l = 1 then some ⟨1,1,2,2⟩ else none⟩ 1 4).toOption.map (·.2) = some ⟨1, 3, 4, 4⟩ := by decide

/-- The `[min, max]` under which `Compactor.Compact(dst)` names its file (and caches it as the level's max) equals the
    header range `ltx.Compactor` computes from the inputs it actually merged.  (A cap on the number of sources whose
    bookkeeping runs ahead of the merged set breaks this.) -/
theorem output_range_is_source_range {st : RState} {dst : Nat} {pk : LevelPick} (h : RWF st)
    (hp : compactPick st dst = .ok pk) :
    pk.srcs = sources st dst ∧ pk.srcs ≠ [] ∧ LevelWF pk.srcs ∧ (pk.min, pk.max) = srcHeader pk.srcs ∧
    ∀ t, (pk.min ≤ t ∧ t ≤ pk.max) ↔ ∃ g ∈ pk.srcs, g.min ≤ t ∧ t ≤ g.max := by
  obtain ⟨_, f, t, hs, hwf, rfl⟩ := compactPick_ok h hp
  refine ⟨hs.symm, List.cons_ne_nil _ _, hwf, ?_, hwf.cover⟩
  show (f.min, endMax (f :: t)) = (f.min, (lastInfo f t).max)
  rw [lastInfo_max, endMax_eq_chainEnd, chainEnd_cons]

/-- (T) The source loop of `Compactor.Compact` in /repo/compactor.go leaves no listed
    source file out: it has no `break`, and its only `continue` follows the append of
    the file's reader — the model's `sources` (all files from the seek point) is what
    the loop merges, and the range bookkeeping precedes every exit from the body. -/
theorem gen_compact_loop :
    Gen.CompactLoop.breaks = 0 ∧ Gen.CompactLoop.exitsBeforeAppend = 0 ∧ Gen.CompactLoop.rangeUpdates = 2 := by
  decide

/-- (T) The protocol of `DB.MaxLTXFileInfo` regenerated from /repo/db.go is executable on its
    own (locks balanced, every map access under the mutex) and no other code touches the map
    outside the mutex. -/
theorem gen_cache_protocol_wf :
    (crun (cinit 6) Gen.CacheLock.maxLTXFileInfo).isSome = true ∧
    (crun (cinit 6) Gen.CacheLock.maxLTXFileInfo).map (·.held) = some false ∧
    Gen.CacheLock.unlockedAccesses = 0 := by decide

/-- For the regenerated protocol of `DB.MaxLTXFileInfo`: wherever a concurrent `Compact(level)` takes effect (after
    `k` of the lister's events), the cache afterwards is empty or names the newest file. -/
theorem cache_listing_never_overwrites_newer (old new k : Nat) :
    cacheOk (runWith Gen.CacheLock.maxLTXFileInfo k old new) = true := by
  -- five events: the compaction cannot act while the mutex is held (k = 1..4); before the lister it is found by
  -- the lookup, after it (k ≥ 5) it overwrites what the lister stored
  match k with
  | 0 | 1 | 2 | 3 | 4 | _ + 5 =>
    simp [Gen.CacheLock.maxLTXFileInfo, runWith, crun, cstep, compactAct, cinit, cacheOk]

/-- Witness that the protocol lookup – unlock – list – lock – store loses the
    update: the level ends at 6, the lister lists it, `Compact` writes 7-8 and caches 8, the
    lister then stores 6 — the next compaction seeks from 7 again (overlap). -/
theorem unlocked_listing_loses_update :
    cacheOk (runWith [CEv.lock, CEv.lookup, CEv.unlock, CEv.list, CEv.lock, CEv.store, CEv.unlock] 4 6 8) = false := by
  decide

/-- Re-checking the entry under the lock before storing repairs the unlocked variant. -/
example : ∀ k ∈ List.range 8,
    cacheOk (runWith [CEv.lock, CEv.lookup, CEv.unlock, CEv.list, CEv.lock, CEv.storeIfAbsent, CEv.unlock] k 6 8) = true := by
  decide

end C06
end Litestream
