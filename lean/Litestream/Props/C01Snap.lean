import Litestream.Lemmas.SyncStep
/-!
# C01 / C02 / C06 — what a snapshot reads is the committed state

`writeLTXFromDB` / `snapshotReader` (db.go) build a snapshot from two sources:
for every page `1..commit` except the lock page, the newest WAL frame of that
page if the WAL page map has one, else the page of the database *file*; the
commit is the last WAL commit if there is one, else the file size.  SQLite's
committed state is the file overlaid by the committed WAL frames.  This file
proves that the two coincide, which is what the `.snap` step of `Model/SyncStep`
assumes when it writes `snapFile lock txid truth`.
-/
namespace Litestream
namespace C01
open Sy

/-- The snapshot litestream assembles from the database file and the WAL segment `seg`
    (all committed transactions of the live WAL generation). The start index `2` of `txnFiles` is arbitrary: it only
    numbers the files (`minTx`, `maxTx`), and nothing here reads those. -/
def assembledSnapshot (lock txid : Nat) (file : Db) (seg : List Txn) : Ltx :=
  let fs := txnFiles 2 seg
  let commit := match fs with
    | [] => file.size
    | f :: r => (lastOf f r).commit
  ⟨txid, txid, commit, 0,
    (snapshotPgnos lock commit).map (fun p => (p, match latest fs p with | some t => t | none => file.page p))⟩

theorem assembledSnapshot_eq_snapFile {lock : Nat} (txid : Nat) {file : Db} {seg : List Txn}
    (hseg : SegOK lock file.size 2 seg) (fl : file.page lock = 0) :
    assembledSnapshot lock txid file seg = snapFile lock txid (applyAll file (txnFiles 2 seg)) := by
  have hc : (match txnFiles 2 seg with | [] => file.size | f :: r => (lastOf f r).commit) =
      (applyAll file (txnFiles 2 seg)).size := by
    cases txnFiles 2 seg with
    | nil => rfl
    | cons f r => exact (applyAll_size file f r).symm
  simp only [assembledSnapshot, snapFile, hc]
  congr 1
  refine List.map_congr_left fun p hp => ?_
  rw [applyAll_page hseg.chainOK fl, if_pos (mem_snapshotPgnos.mp hp).2.1]
  cases latest (txnFiles 2 seg) p <;> rfl

/-- `SegOK` relative to the file size is what SQLite guarantees of the segment. -/
theorem snapshot_reads_committed_state (lock txid : Nat) (file base : Db) (seg : List Txn)
    (hseg : SegOK lock file.size 2 seg) (fl : file.page lock = 0) (f0 : file.page 0 = 0)
    (bl : base.page lock = 0) (b0 : base.page 0 = 0) :
    (base.apply (assembledSnapshot lock txid file seg)).Same (applyAll file (txnFiles 2 seg)) := by
  rw [assembledSnapshot_eq_snapFile txid hseg fl]
  exact apply_snapFile (applyAll_lock_zero hseg.pages fl) (applyAll_lock_zero hseg.pos f0) bl b0

theorem assembled_pagesOk (lock txid : Nat) (file : Db) (seg : List Txn) : PagesOk lock (assembledSnapshot lock txid file seg) :=
  pagesOk_snapshotShape ..

/-- `snapshotReader` with `commit = max(file size, last WAL commit)` (the trial change `seeded/C06-seed9`) is wrong
    exactly when the database shrank in the WAL: concrete witness (file of 5 pages, one transaction shrinking to 3). -/
example : (assembledSnapshot 9 7 ⟨5, [(1, 1), (2, 2), (3, 3), (4, 4), (5, 5)]⟩ [⟨[(1, 11), (3, 13)], 3⟩]).commit = 3 := by decide

end C01
end Litestream
