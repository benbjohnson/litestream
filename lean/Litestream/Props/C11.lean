import Litestream.Lemmas.FsSym
import Litestream.Gen.Publish
/-!
# C11 — Files are flushed before they are published, and published before acknowledged

Model: `Litestream/Model/Fs.lean` (power-loss semantics: `MayBind`, `MayContent`; acceptor `flushOK`).
Tie: (T) `Gen/Publish.lean` — the success-path call sequences of the publishing functions of /repo,
regenerated on every run; (C) `harness/cmd/c11` — real system-call traces judged by the compiled `flushOK`.

Delete rule (`covers`): an LTX file may be unlinked only when a *different* LTX file that is already durable
(published, directory flushed, not unlinked) has a TXID range containing its range and lies in the replica
tree or in the same tree. The rule is sufficient, not necessary: the planner (`planFiles`) is not consulted.
-/
namespace Litestream.C11
open Litestream.Fs

/-- After a power failure at any crash point, under every persistence choice the model allows, whatever is visible
    under a final name is complete. -/
theorem publish_durable (tr : List Event) (h : flushOK tr = true) :
    ∀ (k : Nat) (p : Path) (i v : Nat), p.final = true →
      MayBind (run (tr.take k)) p (some i) → MayContent (run (tr.take k)) i v → Complete tr i v := by
  intro k p i v hp hb hcnt
  obtain ⟨pd, du, hc⟩ := flushOK_cinv h k
  -- the inode is sealed, hence complete already; and it is flushed, so no older version can come back
  have hcomp : Complete tr i ((run (tr.take k)).written i) :=
    sealed_complete (flushOK_killOK h) k (hc.kill.sealed p i hp hb)
  have hfl : (run (tr.take k)).synced i = (run (tr.take k)).written i := hc.flushed p i hp hb
  unfold MayContent at hcnt
  unfold Complete at hcomp ⊢
  omega

/-- When an operation reports success (`ok n` after `pre`), every final name `p` visible at that moment is
    durably bound to exactly the file it shows; and at every later crash point (`mid` = the calls made since,
    as long as none of them unlinks `p`) a power failure leaves `p` visible, with complete content. -/
theorem ack_durable (pre mid post : List Event) (n : Nat)
    (h : flushOK (pre ++ .ok n :: (mid ++ post)) = true)
    (p : Path) (i : Nat) (hp : p.final = true) (hv : (run pre).vol p = some i) :
    (run pre).may p = [some i] ∧
    (Event.unlink p ∉ mid →
      DurablyVisible (run (pre ++ .ok n :: mid)) p ∧
      ∀ j v, MayBind (run (pre ++ .ok n :: mid)) p (some j) → MayContent (run (pre ++ .ok n :: mid)) j v →
        Complete (pre ++ .ok n :: (mid ++ post)) j v) := by
  have hsplit : pre ++ .ok n :: (mid ++ post) = pre ++ .ok n :: mid ++ post := by simp
  rw [hsplit] at h ⊢
  obtain ⟨pd, du, _, _, hc, hacc⟩ := flushOK_split h
  cases hacc with | cons hok hmid =>
  obtain ⟨hpend, rfl⟩ := check_marker.mp hok
  have hmay : (run pre).may p = [some i] := hc.settled p i hp (by rw [hpend]; simp) hv
  refine ⟨hmay, fun hnu => ⟨durablyVisible_run hmid hc hp hnu (durablyVisible_of_may hmay), fun j v hb hcnt => ?_⟩⟩
  have := publish_durable _ h (pre ++ .ok n :: mid).length p j v hp
  rw [List.take_left] at this
  exact this hb hcnt

/-- Every restore chain available durably at the crash point `pre` is still available durably at every later one
    (`pre ++ mid`): replace each member by its superseding file. -/
theorem delete_safe (pre mid post : List Event) (h : flushOK (pre ++ mid ++ post) = true)
    (f : Path) (hf : f.final = true) (hmax : 0 < f.max) (hd : DurablyVisible (run pre) f) :
    ∃ g, Supersedes g f ∧ 0 < g.max ∧ DurablyVisible (run (pre ++ mid)) g := by
  obtain ⟨pd, du, _, _, hc, hmid⟩ := flushOK_split h
  exact cover_run hmid hc hf hmax hd

/-- Why a superseding file keeps restore chains alive: the planner's contiguity relation
    (`min ≤ cur+1 ∧ max > cur`, replica.go CalcRestorePlan / ltx.Compactor) is preserved when a chain
    member is replaced by a file whose range contains it. -/
theorem supersedes_extends {g f : Path} (h : Supersedes g f) {cur : Nat}
    (hf : f.min ≤ cur + 1 ∧ cur < f.max) : g.min ≤ cur + 1 ∧ cur < g.max := by
  obtain ⟨_, h1, h2, _⟩ := h
  omega

theorem wellOrdered_flushOK (p : Protocol) (h : WellOrdered p) : flushOK (traceOf p) = true := by
  obtain ⟨σ', hσ⟩ := Option.isSome_iff_exists.mp h
  obtain ⟨c', hc, -⟩ := sim_all p.steps sim_init hσ
  exact flushOK_iff.mpr ⟨c', hc⟩

/-- The call sequence of `DB.checkDatabaseBehindReplica` at the pinned commit (db.go:1631-1665): the
    fetched baseline file is renamed into place and success is returned with no `FsyncDir` (finding F8,
    KNOWN_FINDINGS signature `C11/checkDatabaseBehindReplica-no-dir-fsync`). -/
def f8Witness : Protocol :=
  ⟨"DB.checkDatabaseBehindReplica",
   [.create .tmp, .write .tmp, .fsync .tmp, .close .tmp, .rename .tmp .final, .remove .tmp, .ok]⟩

/-- The full-strength statement fails on the witness: it is not well ordered … -/
theorem f8_witness_not_wellOrdered : ¬ WellOrdered f8Witness := by decide
/-- … and the acceptor rejects its trace at the success marker (`ack-before-dirsync`, call 6). -/
theorem f8_witness_rejected : verdict (traceOf f8Witness) = some (.ackBeforeDirSync, 6) := by decide
theorem f8_witness_not_flushOK : flushOK (traceOf f8Witness) = false := by decide
/-- With the proposed one-line repair (`internal.FsyncDir(filepath.Dir(localPath))` after the rename)
    the protocol is well ordered. -/
theorem f8_repaired_wellOrdered :
    WellOrdered ⟨"DB.checkDatabaseBehindReplica",
      [.create .tmp, .write .tmp, .fsync .tmp, .close .tmp, .rename .tmp .final, .fsyncDir .final, .remove .tmp, .ok]⟩ := by
  decide

/-- On what the code says *now*: either every regenerated protocol is well ordered (the full-strength
    statement — this is the disjunct that holds once F8 is repaired), or the only protocol that is not is
    exactly the recorded witness `f8Witness` (same function, same call sequence) and all others are well
    ordered. Any other regression makes both disjuncts false. -/
theorem gen_protocols_ok :
    (∀ p ∈ Gen.publishProtocols, WellOrdered p) ∨
    (f8Witness ∈ Gen.publishProtocols ∧ ¬ WellOrdered f8Witness ∧
      ∀ p ∈ Gen.publishProtocols, p ≠ f8Witness → WellOrdered p) := by
  decide

theorem gen_protocols_ok_partial : ∀ p ∈ Gen.publishProtocols, p ≠ f8Witness → WellOrdered p := by
  rcases gen_protocols_ok with h | h
  · exact fun p hp _ => h p hp
  · exact h.2.2

/-- So `publish_durable`, `ack_durable` apply to every regenerated protocol outside the exception. -/
theorem gen_protocols_flushOK : ∀ p ∈ Gen.publishProtocols, p ≠ f8Witness → flushOK (traceOf p) = true :=
  fun p hp hne => wellOrdered_flushOK p (gen_protocols_ok_partial p hp hne)

/-- The extraction still covers the anchored functions (an anchor that disappears breaks the tie). -/
theorem gen_protocols_anchored :
    (Gen.publishProtocols.map (·.name)).take 6 =
      ["DB.sync", "file.ReplicaClient.WriteLTXFile", "Replica.Restore", "Replica.RestoreV3",
       "WriteTXIDFile", "DB.checkDatabaseBehindReplica"] := rfl

private def t : Path := ⟨1, 1, false, 1, 0, 0⟩
private def f1 : Path := ⟨1, 2, true, 1, 1, 1⟩
private def t2 : Path := ⟨2, 1, false, 1, 0, 0⟩
private def l1 : Path := ⟨2, 2, true, 1, 1, 2⟩
private def good : List Event :=
  [.create t, .write t, .write t, .fsync t, .close t, .rename t f1, .fsyncDir 1, .ok 1,
   .create t2, .write t2, .fsync t2, .close t2, .rename t2 l1, .fsyncDir 2, .ok 2, .unlink f1, .ok 3]

example : flushOK good = true := by decide
/-- hypotheses of `publish_durable` are met with a visible final name at crash point 7 -/
example : MayBind (run (good.take 7)) f1 (some 0) := by decide
example : verdict [.create t, .write t, .close t, .rename t f1, .fsyncDir 1, .ok 1] = some (.unsynced, 3) := by decide
example : verdict [.create t, .write t, .fsync t, .rename t f1, .ok 1] = some (.ackBeforeDirSync, 4) := by decide
example : verdict [.create t, .write t, .fsync t, .rename t f1, .fsyncDir 1, .unlink f1] = some (.deleteUncovered, 5) := by decide
example : verdict [.create f1, .write f1] = some (.directWrite, 0) := by decide
/-- and a power failure really can show a half-written final file in a rejected history -/
example : ∃ v, MayContent (run [.create t, .write t, .rename t f1]) 0 v ∧ ¬ Complete [.create t, .write t, .rename t f1] 0 v :=
  ⟨0, by decide, by decide⟩

end Litestream.C11
