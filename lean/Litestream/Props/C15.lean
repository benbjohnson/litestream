import Litestream.Lemmas.Retention
import Litestream.Model.Timestamps
/-!
# C15 — Timestamp restore never returns data from after the requested time

Theorems about `planFiles r (atTime T)` (C08's planner model with the timestamp filter
`CreatedAt.Before(T)` on the snapshot and on every level) and a ledger `t : Nat → Nat` giving the
replication time of every TXID.  The restore theorems are corollaries of C08's soundness /
completeness / maximality plus the invariant `TsWF`; the rest says when `TsWF` holds.
-/
namespace Litestream
namespace C15

/-- A file is never older than what it contains. -/
def TsWF (t : Nat → Nat) (r : List FileInfo) : Prop :=
  ∀ f ∈ r, ∀ n, f.min ≤ n → n ≤ f.max → t n ≤ f.created

def ClockMono (t : Nat → Nat) : Prop := ∀ m n, m ≤ n → t m ≤ t n

def atTime (T : Nat) : Target := ⟨0, some T⟩

theorem elig_atTime {T f} : elig (atTime T) f = true ↔ f.created < T := by simp [elig, atTime]

theorem ts_no_future_file {t r T P} (hwf : FilesWF r) (hts : TsWF t r) (h : planFiles r (atTime T) = .ok P) :
    ∀ f ∈ P, ∀ n, f.min ≤ n → n ≤ f.max → t n < T := by
  intro f hf n hmin hmax
  obtain ⟨hv, _, hcr⟩ := C08.plan_sound (listLevel_wf hwf) h
  have := hcr T rfl f hf
  have := hts f (hv.vis.files f hf).1 n hmin hmax
  omega

/-- A plan for timestamp `T` contains only TXIDs replicated strictly before `T`. -/
theorem ts_never_future {t r T P} (hwf : FilesWF r) (hts : TsWF t r) (h : planFiles r (atTime T) = .ok P) :
    ∀ n, 1 ≤ n → n ≤ chainEnd 0 P → t n < T := by
  intro n h1 h2
  obtain ⟨f, hf, hmin, hmax⟩ := (C08.plan_sound (listLevel_wf hwf) h).1.vis.covers (by omega) h2
  exact ts_no_future_file hwf hts h f hf n hmin hmax

/-- Witness replica: TXID 2 replicated at 30, but its snapshot `1..2` stamped 20 (e.g. with a
    time sampled before the snapshot waited for the sync that produced TXID 2). -/
def exBadT (n : Nat) : Nat := if n = 2 then 30 else 10

def exBad : List FileInfo := [⟨0, 1, 1, 10⟩, ⟨0, 2, 2, 30⟩, ⟨9, 1, 2, 20⟩]

/-- **The invariant is necessary.** On a well-formed replica that violates `TsWF`, the planner
    does select, for `T = 25`, a file containing TXID 2 which was replicated at 30. -/
theorem ts_future_without_invariant :
    FilesWF exBad ∧ ¬ TsWF exBadT exBad ∧ planFiles exBad (atTime 25) = .ok [⟨9, 1, 2, 20⟩] ∧
    (2 ≤ chainEnd 0 [(⟨9, 1, 2, 20⟩ : FileInfo)] ∧ 25 ≤ exBadT 2) := by
  refine ⟨filesWF_of_check (by decide), ?_, by decide, by decide⟩
  · intro h
    have := h ⟨9, 1, 2, 20⟩ (by simp [exBad]) 2 (by decide) (by decide)
    simp [exBadT] at this

theorem validChain_atTime_mono {r T₁ T₂ Q} (hT : T₁ ≤ T₂) (h : C08.ValidChain (listLevel r) (atTime T₁) Q) :
    C08.ValidChain (listLevel r) (atTime T₂) Q :=
  (h.toChain.mono fun _ hf => ⟨hf.1, elig_atTime.mpr (Nat.lt_of_lt_of_le (elig_atTime.mp hf.2) hT)⟩).validChain
    h.pos (absurd rfl)

theorem complete_atTime {r T Q} (hwf : FilesWF r) (hQ : C08.ValidChain (listLevel r) (atTime T) Q) :
    ∃ P, planFiles r (atTime T) = .ok P ∧ chainEnd 0 Q ≤ chainEnd 0 P := by
  rcases C08.planFiles_complete hwf (by simp [atTime]) ⟨Q, hQ⟩ with ⟨P, hP⟩ | ⟨_, h2, _⟩
  · exact ⟨P, hP, C08.planFiles_reaches_max hwf hP hQ⟩
  · simp [atTime] at h2

/-- A later timestamp never fails where an earlier one succeeded and never yields an earlier state. -/
theorem ts_monotone {r T₁ T₂ P₁} (hwf : FilesWF r) (hT : T₁ ≤ T₂) (h : planFiles r (atTime T₁) = .ok P₁) :
    ∃ P₂, planFiles r (atTime T₂) = .ok P₂ ∧ chainEnd 0 P₁ ≤ chainEnd 0 P₂ :=
  complete_atTime hwf (validChain_atTime_mono hT (C08.plan_sound (listLevel_wf hwf) h).1)

theorem ts_exact_of_chain {t r T k Q} (hwf : FilesWF r) (hts : TsWF t r)
    (hQ : C08.ValidChain (listLevel r) (atTime T) Q) (hk : chainEnd 0 Q = k)
    (hafter : ∀ n, k < n → T ≤ t n) :
    ∃ P, planFiles r (atTime T) = .ok P ∧ chainEnd 0 P = k := by
  obtain ⟨P, hP, hle⟩ := complete_atTime hwf hQ
  refine ⟨P, hP, ?_⟩
  by_cases hgt : k < chainEnd 0 P
  · have h1 := ts_never_future hwf hts hP (chainEnd 0 P) (by omega) (Nat.le_refl _)
    have h2 := hafter (chainEnd 0 P) hgt
    omega
  · omega

/-- All level-0 files `1..k` present, each stamped with its TXID's replication time. -/
def L0Present (t : Nat → Nat) (r : List FileInfo) (k : Nat) : Prop :=
  ∀ n, 1 ≤ n → n ≤ k → (⟨0, n, n, t n⟩ : FileInfo) ∈ r

/-- With all level-0 files present the result is precisely the last TXID replicated before `T`. -/
theorem ts_exact_with_l0 {t r T k} (hwf : FilesWF r) (hts : TsWF t r) (hmono : ClockMono t)
    (hk1 : 1 ≤ k) (hl0 : L0Present t r k) (hbefore : t k < T) (hafter : ∀ n, k < n → T ≤ t n) :
    ∃ P, planFiles r (atTime T) = .ok P ∧ chainEnd 0 P = k := by
  obtain ⟨Q, hQ⟩ : ∃ Q, Chain (Usable (listLevel r) (atTime T)) 0 Q k :=
    Chain.nil.extend (Nat.zero_le k) fun n h1 hn => ⟨⟨0, n, n, t n⟩, ⟨inLevels_listLevel.mpr ⟨hl0 n h1 hn, Nat.zero_le _⟩,
      elig_atTime.mpr (Nat.lt_of_le_of_lt (hmono n k hn) hbefore)⟩, rfl, rfl⟩
  exact ts_exact_of_chain hwf hts (hQ.validChain hk1 (absurd rfl)) hQ.reach hafter

theorem ts_before_first_fails {t r T} (hwf : FilesWF r) (hts : TsWF t r) (hT : T ≤ t 1) :
    ∀ P, planFiles r (atTime T) ≠ .ok P := by
  intro P h
  have hpos := (C08.plan_sound (listLevel_wf hwf) h).1.pos
  have := ts_never_future hwf hts h 1 (Nat.le_refl _) (by omega)
  omega

/-- The invariant is preserved by sync, compaction (stamped like its newest input),
    snapshot (stamped with a wall clock not behind the position's replication time). -/
theorem tswf_step {t r} (hmono : ClockMono t) (hts : TsWF t r) (op : GrowOp)
    (hside : match op with
      | .sync _ => True
      | .compact _ _ last => last ∈ r ∧ last.min ≤ last.max
      | .snapshot n now => t n ≤ now) :
    TsWF t (op.apply t r) := by
  intro f hf n hmin hmax
  rcases List.mem_cons.mp hf with rfl | hf
  · cases op with
    | sync m =>
      have : n = m := Nat.le_antisymm hmax hmin
      rw [this]; exact Nat.le_refl _
    | compact l a last =>
      exact Nat.le_trans (hmono n last.max hmax) (hts last hside.1 last.max hside.2 (Nat.le_refl _))
    | snapshot m now => exact Nat.le_trans (hmono n m hmax) hside
  · exact hts f hf n hmin hmax

/-- Deleting files (any retention operation) keeps the invariant. -/
theorem tswf_sub {t r r'} (hts : TsWF t r) (hsub : ∀ f ∈ r', f ∈ r) : TsWF t r' :=
  fun f hf => hts f (hsub f hf)

/-- Were a compacted file stamped like its *first* input the invariant would break. -/
example : ¬ TsWF (fun n => 10 * n) [⟨1, 1, 3, 10⟩] := by
  intro h
  have := h ⟨1, 1, 3, 10⟩ (by simp) 3 (by decide) (by decide)
  simp at this

/-- The executable check used on real files implies `TsWF` for the ledger's function. -/
theorem tsWFB_sound {led : Ledger} {r : List FileInfo} (h : tsWFB led r = true) : TsWF (tOf led) r := by
  intro f hf n hmin hmax
  have h1 := List.all_eq_true.mp (List.all_eq_true.mp h f hf) (n - f.min) (List.mem_range.mpr (by omega))
  rw [Nat.add_sub_cancel' hmin] at h1
  exact of_decide_eq_true h1

def exT (n : Nat) : Nat := 10 * n

def exR : List FileInfo :=
  [⟨9, 1, 2, 25⟩, ⟨0, 1, 1, 10⟩, ⟨0, 2, 2, 20⟩, ⟨0, 3, 3, 30⟩, ⟨0, 4, 4, 40⟩, ⟨1, 1, 3, 30⟩]

example : tsWFB [(1, 10), (2, 20), (3, 30), (4, 40)] exR = true := by decide
example : planFiles exR (atTime 31) = .ok [⟨9, 1, 2, 25⟩, ⟨1, 1, 3, 30⟩] := by decide
example : planFiles exR (atTime 30) = .ok [⟨9, 1, 2, 25⟩] := by decide
example : planFiles exR (atTime 25) = .ok [⟨0, 1, 1, 10⟩, ⟨0, 2, 2, 20⟩] := by decide
example : planFiles exR (atTime 10) = .error .txNotAvailable := by decide
example : lastBefore [(1, 10), (2, 20), (3, 30), (4, 40)] 31 4 = 3 := by decide

end C15
end Litestream
