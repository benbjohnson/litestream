import Litestream.Gen.StateWrites
/-!
# C04 — (T) who writes the in-memory state `verify` relies on

`Vf.verify` takes `fresh` (= `lastSyncedWALOffset == 0`) to mean "no sync has
completed since this DB object was opened": only then is a changed WAL salt
treated as "restarted while nobody held the read lock" (repair of finding F2).
That reading is sound only if nothing but a completed sync makes the field
non-zero and `Close` resets it (repair of finding F1), as does the run-time recovery of local state (repair of finding F3).  The inventory of writes
is regenerated from the source on every run.
-/
namespace Litestream
namespace C04

def expectedStateWrites : List (String × String × String) := [
  ("Close", "db.syncState", "syncState{}"),
  ("syncLocked", "exec.state.syncedSinceCheckpoint", "true"),
  ("verifyAndSyncWithExecutor", "exec.state.checkpointUnresolved", "false"),
  ("applySyncResult", "state.lastSyncedWALOffset", "result.newWALSize"),
  ("applySyncResult", "state.syncedToWALEnd", "result.syncedToWALEnd"),
  ("newSyncExecutor", "db.syncState", "syncState{}"),
  ("applySyncExecutor", "db.syncState", "exec.state"),
  ("applySyncResult", "exec.state.lastSyncedWALOffset", "result.newWALSize"),
  ("applySyncResult", "exec.state.syncedToWALEnd", "result.syncedToWALEnd"),
  ("checkpoint", "state.checkpointUnresolved", "state.checkpointUnresolved || exec.state.checkpointUnresolved"),
  ("checkpoint", "*state", "exec.state"),
  ("checkpointWithExecutor", "exec.state.checkpointUnresolved", "true"),
  ("checkpointWithExecutor", "exec.state.syncedSinceCheckpoint", "false"),
  ("checkpointWithExecutor", "exec.state.syncedSinceCheckpoint", "false"),
  ("checkpointWithExecutor", "exec.state.syncedSinceCheckpoint", "false"),
  ("checkpointWithExecutor", "exec.state.syncedSinceCheckpoint", "false")
]

theorem gen_state_writes_eq : Gen.StateWrites.writes = expectedStateWrites := rfl

theorem gen_offset_written_only_from_sync_result :
    ∀ w ∈ Gen.StateWrites.writes, (w.2.1 = "state.lastSyncedWALOffset" ∨ w.2.1 = "exec.state.lastSyncedWALOffset") →
      w.1 = "applySyncResult" ∧ w.2.2 = "result.newWALSize" := by
  simp [Gen.StateWrites.writes]

/-- Whole-struct writes: `Close` and the run-time recovery (repair of F3) zero the state; everything
    else copies an executor's state back. -/
theorem gen_whole_state_writes :
    ∀ w ∈ Gen.StateWrites.writes, (w.2.1 = "db.syncState" ∨ w.2.1 = "*state") →
      ((w.1 = "Close" ∨ w.1 = "newSyncExecutor") ∧ w.2.2 = "syncState{}") ∨ w.2.2 = "exec.state" := by
  simp [Gen.StateWrites.writes]

/-- `checkpointUnresolved` is raised only by `checkpointWithExecutor` (error exit after a non-PASSIVE
    checkpoint ran), carried back by `checkpoint`, and lowered only by `verifyAndSyncWithExecutor`
    (after a snapshot sync). -/
theorem gen_unresolved_writes :
    ∀ w ∈ Gen.StateWrites.writes, (w.2.1 = "exec.state.checkpointUnresolved" ∨ w.2.1 = "state.checkpointUnresolved") →
      (w.1 = "checkpointWithExecutor" ∧ w.2.2 = "true") ∨ (w.1 = "verifyAndSyncWithExecutor" ∧ w.2.2 = "false") ∨ w.1 = "checkpoint" := by
  simp [Gen.StateWrites.writes]

/-! ### What the inventory means: `fresh` is conservative

Events of one DB object's life as far as the field is concerned. -/
inductive MemEv where
  | opened                 -- NewDB / Open: zero value
  | syncResult (newWALSize : Nat)   -- applySyncResult(result)
  | closed                 -- Close: syncState{}
  | recovered              -- newSyncExecutor after ResetLocalState (auto-recover): syncState{}
deriving DecidableEq, Repr

def memStep (_off : Nat) : MemEv → Nat
  | .opened => 0
  | .syncResult n => n
  | .closed => 0
  | .recovered => 0

def memRun (evs : List MemEv) : Nat := evs.foldl memStep 0

def sinceOpen : List MemEv → List Nat
  | [] => []
  | .opened :: _ => []
  | .closed :: _ => []
  | .recovered :: _ => []
  | .syncResult n :: rest => n :: sinceOpen rest

theorem memRun_snoc (evs : List MemEv) (e : MemEv) : memRun (evs ++ [e]) = memStep (memRun evs) e := by
  unfold memRun; rw [List.foldl_append]; rfl

/-- A non-zero in-memory offset means a sync result was applied after the last open or close: the position
    it names was established in this session, under litestream's read lock. -/
theorem not_fresh_means_synced_this_session (evs : List MemEv) (h : memRun evs ≠ 0) :
    ∃ n, (sinceOpen evs.reverse).head? = some n ∧ memRun evs = n := by
  -- the offset is whatever the last event left, and only a sync result leaves it non-zero
  rcases List.eq_nil_or_concat evs with rfl | ⟨init, e, rfl⟩
  · exact absurd rfl h
  · rw [List.concat_eq_append, memRun_snoc] at *
    rw [List.reverse_concat]
    cases e with
    | syncResult n => exact ⟨n, rfl, rfl⟩
    | opened | closed | recovered => exact absurd rfl h

/-- After `Close` (or a fresh open) the next verify is a start-up verify. -/
theorem fresh_after_close (evs : List MemEv) : memRun (evs ++ [.closed]) = 0 ∧ memRun (evs ++ [.opened]) = 0 :=
  ⟨memRun_snoc evs _, memRun_snoc evs _⟩

example : memRun [.opened, .syncResult 4152, .closed] = 0 ∧ memRun [.opened, .syncResult 4152] = 4152 := by decide

/-! ### Run-time recovery of the local state (repair of finding F3)

`ResetLocalState` leaves the position at zero.  The repaired code marks the baseline as
pending, and the next executor re-runs the check `init` runs for a database that is behind
its replica, so the local position becomes the replica's newest TXID. -/

def expectedRecovery : List (String × String) := [
  ("ResetLocalState: baselinePending.Store(true)", ""),
  ("newSyncExecutor: checkDatabaseBehindReplica(ctx)", "db.baselinePending.Load() && db.Replica != nil"),
  ("newSyncExecutor: baselinePending.Store(false)", "db.baselinePending.Load()"),
  ("init: checkDatabaseBehindReplica(ctx)", "db.Replica != nil")]

theorem gen_recovery_eq : Gen.StateWrites.recovery = expectedRecovery := rfl

/-- (T) `newSyncExecutor` builds the executor from `db.syncState` only after the pending-baseline block
    has re-established the baseline and reset that state; an executor built earlier would carry the
    pre-reset state (not `fresh`) into verify and write it back. -/
theorem gen_executor_built_after_reset :
    Gen.StateWrites.executorOrder = ["init", "baseline", "reset-state", "pos", "build-executor(state: db.syncState)"] := rfl

/-- Position after `checkDatabaseBehindReplica` (the same function as `C04.initPos`, restated here
    so this module stays independent of the decision model). -/
def basePos (localMax replicaMax : Nat) : Nat := if localMax ≥ replicaMax then localMax else replicaMax

/-- `Replica.syncOnce`'s upload loop: uploads `rpos+1 … dpos`, reports success. -/
def uploadOk (dpos rpos : Nat) : Nat := if rpos < dpos then dpos else rpos

/-- With the baseline re-established after a run-time reset (local position `basePos 0 replicaMax`), the
    next L0 file has a TXID above everything on the replica, and a successful `Replica.Sync` leaves the
    replica at the database position — no silent stall.  (The old code continued from position 0:
    `C04.f3_runtime_reset_breaks_both`.) -/
theorem runtime_reset_recovers (replicaMax : Nat) :
    replicaMax < basePos 0 replicaMax + 1 ∧
    uploadOk (basePos 0 replicaMax + 1) replicaMax = basePos 0 replicaMax + 1 := by
  have hb : basePos 0 replicaMax = replicaMax := by unfold basePos; split <;> omega
  rw [hb]
  exact ⟨Nat.lt_succ_self _, if_pos (Nat.lt_succ_self _)⟩

end C04
end Litestream
