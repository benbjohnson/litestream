import Litestream.Model.Wal
import Litestream.Lemmas.List
/-! List level of `pageMap`: frame offsets, the association-list page map of `Model/Wal.lean`, and the loop
    of `pageMap` over an explicit list of frames (where a byte budget stops it, how runs compose). -/
namespace Litestream.Wal

theorem frameOff_succ (ps i : Nat) : frameOff ps (i + 1) = frameOff ps i + (fhSize + ps) := by
  unfold frameOff; rw [Nat.succ_mul, Nat.add_assoc]

theorem frameOff_mono (ps : Nat) {i j : Nat} (h : i ≤ j) : frameOff ps i ≤ frameOff ps j :=
  Nat.add_le_add_left (Nat.mul_le_mul_right _ h) _

-- `ps + fhSize` in this order: the form `newReaderAt` divides by
theorem frameOff_sub_hdr (ps k : Nat) : frameOff ps k - hdrSize = k * (ps + fhSize) := by
  unfold frameOff; rw [Nat.add_sub_cancel_left, Nat.add_comm fhSize]

theorem hdrSize_lt_frameOff (ps : Nat) {k : Nat} (hk : 0 < k) : hdrSize < frameOff ps k :=
  Nat.lt_add_of_pos_right (Nat.mul_pos hk (Nat.add_pos_left (by decide) ps))

def orElse' (a b : Option Nat) : Option Nat := match a with | some v => some v | none => b

theorem orElse'_eq_or (a b : Option Nat) : orElse' a b = a.or b := by
  cases a <;> rfl

@[simp] theorem pmGet_nil (k : Nat) : pmGet [] k = none := rfl

theorem pmGet_cons (p : Nat × Nat) (m : PMap) (k : Nat) :
    pmGet (p :: m) k = if p.1 = k then some p.2 else pmGet m k := by
  unfold pmGet
  by_cases h : p.1 = k <;> simp [h]

theorem pmGet_filter (q : Nat → Bool) (m : PMap) (k : Nat) :
    pmGet (m.filter (fun p => q p.1)) k = if q k then pmGet m k else none := by
  -- the filter keeps every entry with key `k` or none of them
  have : ∀ p : Nat × Nat, (q p.1 && p.1 == k) = (q k && p.1 == k) := fun p => by
    by_cases h : p.1 = k
    · rw [h]
    · rw [beq_eq_false_iff_ne.mpr h, Bool.and_false, Bool.and_false]
  unfold pmGet
  rw [List.find?_filter]
  simp only [Bool.decide_and, Bool.decide_eq_true, this]
  cases q k <;> simp

theorem pmGet_set (m : PMap) (k v k' : Nat) :
    pmGet (pmSet m k v) k' = if k = k' then some v else pmGet m k' := by
  unfold pmSet
  rw [pmGet_cons, pmGet_filter (· != k)]
  by_cases h : k = k'
  · rw [if_pos h, if_pos h]
  · rw [if_neg h, if_neg h, if_pos (bne_iff_ne.mpr (Ne.symm h))]

theorem pmGet_merge (m tx : PMap) (k : Nat) :
    pmGet (pmMerge m tx) k = orElse' (pmGet tx k) (pmGet m k) := by
  unfold pmMerge
  induction tx with
  | nil => rfl
  | cons p tx ih =>
    rw [List.foldr_cons, pmGet_set, pmGet_cons, ih]
    split <;> rfl

theorem mem_pmSet {m : PMap} {k v : Nat} {p : Nat × Nat} (h : p ∈ pmSet m k v) : p = (k, v) ∨ p ∈ m :=
  (List.mem_cons.mp h).imp_right fun h => (List.mem_filter.mp h).1

theorem mem_pmMerge {m tx : PMap} {p : Nat × Nat} (h : p ∈ pmMerge m tx) : p ∈ tx ∨ p ∈ m := by
  unfold pmMerge at h
  induction tx with
  | nil => exact Or.inr h
  | cons q tx ih =>
    rcases mem_pmSet h with rfl | h
    · exact Or.inl List.mem_cons_self
    · exact (ih h).imp_left (List.mem_cons_of_mem _)

theorem pmGet_some_mem {m : PMap} {k v : Nat} (h : pmGet m k = some v) : (k, v) ∈ m := by
  obtain ⟨p, hp, rfl⟩ := Option.map_eq_some_iff.mp h
  have hk : (p.1 == k) = true := (List.find?_eq_some_iff_append.mp hp).1
  exact eq_of_beq hk ▸ List.mem_of_find?_eq_some hp

theorem pmMaxOff_le_iff (m : PMap) (B : Nat) : pmMaxOff m ≤ B ↔ ∀ p ∈ m, p.2 ≤ B :=
  (foldl_sup_le_iff (g := fun p : Nat × Nat => p.2) (fun _ _ _ => Nat.max_le) m 0 B).trans
    (and_iff_right (Nat.zero_le B))

theorem pmMaxOff_eq {m : PMap} {p : Nat × Nat} (hp : p ∈ m) (hle : ∀ q ∈ m, q.2 ≤ p.2) : pmMaxOff m = p.2 :=
  Nat.le_antisymm ((pmMaxOff_le_iff m _).mpr hle) ((pmMaxOff_le_iff m _).mp (Nat.le_refl _) p hp)

/-- The loop of `pageMap` over an explicit list of accepted frames, `i` = index of the first. -/
def pmList (ps start maxBytes : Nat) : Nat → List Frame → PMState → PMState × Bool
  | _, [], st => (st, false)
  | i, f :: rest, st =>
    let tx := pmSet st.tx f.pgno (frameOff ps i)
    if f.commit ≠ 0 then
      let st' : PMState := { m := pmMerge st.m tx, tx := [], commit := f.commit }
      if maxBytes > 0 ∧ frameOff ps i + (fhSize + ps) - start ≥ maxBytes then (st', true)
      else pmList ps start maxBytes (i + 1) rest st'
    else pmList ps start maxBytes (i + 1) rest { st with tx := tx }

/-- one iteration of the loop without budget -/
def pmStep (ps i : Nat) (f : Frame) (st : PMState) : PMState :=
  if f.commit ≠ 0 then { m := pmMerge st.m (pmSet st.tx f.pgno (frameOff ps i)), tx := [], commit := f.commit }
  else { st with tx := pmSet st.tx f.pgno (frameOff ps i) }

theorem pmList_cons (ps start mx i : Nat) (f : Frame) (rest : List Frame) (st : PMState) :
    pmList ps start mx i (f :: rest) st =
      if f.commit ≠ 0 ∧ mx > 0 ∧ frameOff ps i + (fhSize + ps) - start ≥ mx then (pmStep ps i f st, true)
      else pmList ps start mx (i + 1) rest (pmStep ps i f st) := by
  unfold pmStep
  by_cases hc : f.commit ≠ 0
  · by_cases hb : mx > 0 ∧ frameOff ps i + (fhSize + ps) - start ≥ mx
    · simp only [pmList, if_pos hc, if_pos hb, if_pos (And.intro hc hb)]
    · simp only [pmList, if_pos hc, if_neg hb, if_neg (fun h : _ ∧ _ => hb h.2)]
  · simp only [pmList, if_neg hc, if_neg (fun h : _ ∧ _ => hc h.1)]

theorem pmList_cons0 (ps start i : Nat) (f : Frame) (rest : List Frame) (st : PMState) :
    pmList ps start 0 i (f :: rest) st = pmList ps start 0 (i + 1) rest (pmStep ps i f st) := by
  rw [pmList_cons, if_neg (fun h => Nat.lt_irrefl 0 h.2.1)]

theorem pmList0_snd (ps start i : Nat) (vp : List Frame) (st : PMState) : (pmList ps start 0 i vp st).2 = false := by
  induction vp generalizing i st with
  | nil => rfl
  | cons f rest ih => rw [pmList_cons0]; exact ih _ _

theorem pmList0_append (ps start i : Nat) (a c : List Frame) (st : PMState) :
    pmList ps start 0 i (a ++ c) st = pmList ps start 0 (i + a.length) c (pmList ps start 0 i a st).1 := by
  induction a generalizing i st with
  | nil => rfl
  | cons f rest ih =>
    rw [List.cons_append, pmList_cons0, pmList_cons0, ih, List.length_cons, Nat.add_assoc, Nat.add_comm 1]

/-- Where the budget stopped the loop. It does not say that the budget was reached at `f`, nor that it was not before. -/
theorem pmList_limited {ps start mx i : Nat} {vp : List Frame} {st st1 : PMState}
    (h : pmList ps start mx i vp st = (st1, true)) :
    ∃ pre f suf, vp = pre ++ f :: suf ∧ f.commit ≠ 0 ∧
      st1 = pmStep ps (i + pre.length) f (pmList ps start 0 i pre st).1 := by
  induction vp generalizing i st with
  | nil => cases h
  | cons f rest ih =>
    rw [pmList_cons] at h
    split at h
    next hb => exact ⟨[], f, rest, rfl, hb.1, (Prod.mk.inj h).1.symm⟩  -- the budget stops the loop at `f`
    next =>
      obtain ⟨pre, g, suf, hvp, hg, hst⟩ := ih h
      refine ⟨f :: pre, g, suf, by rw [hvp]; rfl, hg, ?_⟩
      rw [hst, pmList_cons0, List.length_cons, Nat.add_assoc, Nat.add_comm 1]

/-- A committed map that is `sb.m` laid over `base` stays so along the loop. -/
theorem pmList_underlay (ps start i : Nat) (vp : List Frame) (sa sb : PMState) (base : PMap)
    (htx : sa.tx = sb.tx) (hm : ∀ pg, pmGet sa.m pg = orElse' (pmGet sb.m pg) (pmGet base pg)) (pg : Nat) :
    pmGet (pmList ps start 0 i vp sa).1.m pg = orElse' (pmGet (pmList ps start 0 i vp sb).1.m pg) (pmGet base pg) := by
  induction vp generalizing i sa sb with
  | nil => exact hm pg
  | cons f rest ih =>
    rw [pmList_cons0, pmList_cons0]
    unfold pmStep
    by_cases hc : f.commit ≠ 0
    · simp only [if_pos hc]
      refine ih _ _ _ rfl fun q => ?_
      simp only [pmGet_merge, hm q, htx, orElse'_eq_or, Option.or_assoc]
    · simp only [if_neg hc]
      exact ih _ _ _ (by rw [htx]) hm

end Litestream.Wal
