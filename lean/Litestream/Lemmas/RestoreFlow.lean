import Litestream.Model.RestoreFlow
/-! The output-protocol model of `Replica.Restore` (C10): a run of `runSteps` stops at the first step that
    fails, so walking the step list once gives the table of all the ways a restore can end (`Outcome`), for
    the step list with and without `rmSidecars`. Core Lean only. -/
namespace Litestream
open RestoreFlow

/-- One of C10's theorems; it stands in this file because the walk below rests on it (`runSteps_if`). -/
theorem C10.runSteps_err {D : Type} (inp : Inputs D) (ss : List Step) (st : State D) (e : Err)
    (h : st.err = some e) : runSteps inp ss st = st := by
  cases ss with
  | nil => rfl
  | cons s ss => simp [runSteps, h]

namespace RestoreFlow
open C10

theorem runSteps_cons {D : Type} {inp : Inputs D} {s : Step} {ss : List Step} {st : State D}
    (h : st.err = none) : runSteps inp (s :: ss) st = runSteps inp ss (exec inp s st) := by
  simp only [runSteps, h]

/-- Used as `runSteps_if rfl rfl rfl`: the unifier reads `c`, `a`, `b` off `exec` at the step. -/
theorem runSteps_if {D : Type} {inp : Inputs D} {s : Step} {ss : List Step} {st a b : State D} {c : Prop}
    [Decidable c] {e : Err} (hst : st.err = none) (hx : exec inp s st = if c then a else b)
    (ha : a.err = some e) : runSteps inp (s :: ss) st = if c then a else runSteps inp ss b := by
  rw [runSteps_cons hst, hx]
  split
  · exact runSteps_err inp ss a e ha
  · rfl

theorem runSteps_refused {D : Type} (inp : Inputs D) (ss : List Step) (h : inp.outPre = true) :
    runSteps inp (.statOutput :: ss) ⟨initFs inp, false, none, false⟩
      = ⟨initFs inp, false, some .outputExists, false⟩ := by
  have : exec inp .statOutput ⟨initFs inp, false, none, false⟩
      = ⟨initFs inp, false, some .outputExists, false⟩ := by
    simp only [exec, initFs, h]; rfl
  rw [runSteps_cons rfl, this, runSteps_err _ _ _ _ rfl]

theorem exec_statOutput {D : Type} (inp : Inputs D) (st : State D) (h : st.fs.out = .absent) :
    exec inp .statOutput st
      = if inp.fails .statOutput then { st with err := some (.step .statOutput) } else st := by
  simp only [exec, h]

def resultOf {D : Type} (st : State D) : Fs D × Except Err D :=
  match (finish st).err, (finish st).fs.out with
  | some e, _ => ((finish st).fs, .error e)
  | none, .complete d => ((finish st).fs, .ok d)
  | none, _ => ((finish st).fs, .error (.step .rename))

theorem restoreWith_eq_resultOf {D : Type} (steps : List Step) (inp : Inputs D) :
    restoreWith steps inp = resultOf (runSteps inp steps ⟨initFs inp, false, none, false⟩) := rfl

/-- How `Restore` ends once `os.Rename` has put the decoded database `d` at the output path, with
    `-wal`/`-shm` present beside it or not (`w`, `sh`). -/
inductive Published {D : Type} (inp : Inputs D) (d : D) (w sh : Bool) : Fs D × Except Err D → Prop
  /-- `internal.FsyncDir` fails: the error is returned, the restored database stays. -/
  | dirSync : Published inp d w sh (⟨.complete d, .absent, w, sh⟩, .error (.step .fsyncDir))
  /-- `opt.IntegrityCheck == IntegrityCheckNone`: nil, and nothing has looked at the sidecars. -/
  | unchecked : inp.integrityOn = false → Published inp d w sh (⟨.complete d, .absent, w, sh⟩, .ok d)
  /-- `checkIntegrity` passes. SQLite opened the file: a `-wal` beside it was replayed and checkpointed
      into it, so what is judged and left is `d'`; no sidecar remains. -/
  | checked (d' : D) : d' = (if w then inp.hotWal d else d) → inp.integrityOn = true →
      inp.integrityOk d' = true → Published inp d w sh (⟨.complete d', .absent, false, false⟩, .ok d')
  /-- `checkIntegrity` fails with `ctx.Err() != nil`: nothing is removed, SQLite's sidecars may stay. -/
  | cancelled : inp.ctxCancelled = true →
      Published inp d w sh
        (⟨.complete d, .absent, inp.sidecarWal, inp.sidecarShm⟩, .error (.step .integrity))
  /-- `checkIntegrity` fails, context alive: output, `-shm` and `-wal` are removed. -/
  | removed : inp.ctxCancelled = false →
      Published inp d w sh (⟨.absent, .absent, false, false⟩, .error (.step .integrity))

/-- Every way `Restore` can end: final file system and result. `w`, `sh` say whether a `-wal`/`-shm`
    lies beside the output at the moment it is published. -/
inductive Outcome {D : Type} (inp : Inputs D) (w sh : Bool) : Fs D × Except Err D → Prop
  /-- Refused because the output exists, or failed in `CalcRestorePlan`, the size check or `MkdirAll`:
      the file system is as it was found, a stale `.tmp` included. -/
  | untouched (e : Err) :
      e ∈ [.outputExists, .step .statOutput, .step .calcPlan, .step .sizeCheck, .step .mkdirParent] →
      Outcome inp w sh (initFs inp, .error e)
  /-- The ltx library panics in the compactor goroutine: the process dies, the deferred
      `os.Remove(tmp)` never runs. -/
  | crashed : inp.decodePanics = true →
      Outcome inp w sh (⟨.absent, .partialW, inp.walPre, inp.shmPre⟩, .error .crash)
  /-- Failed between `os.Create(tmp)` and `os.Rename`: nothing at the output path, `.tmp` removed by
      the deferred call. -/
  | unpublished (s : Step) (w' sh' : Bool) :
      s ∈ [.createTmp, .decode, .fsync, .close, .rmSidecars, .rename] →
      Outcome inp w sh (⟨.absent, .absent, w', sh'⟩, .error (.step s))
  /-- The rename went through: the data pipeline had produced `d`, nothing pre-existed. -/
  | published (d : D) (r : Fs D × Except Err D) : inp.decoded = some d → inp.outPre = false →
      inp.sizesOk = true → Published inp d w sh r → Outcome inp w sh r

theorem published_runSteps {D : Type} (inp : Inputs D) (d : D) (w sh : Bool) :
    Published inp d w sh (resultOf (runSteps inp [.fsyncDir, .integrity]
      ⟨⟨.complete d, .absent, w, sh⟩, true, none, false⟩)) := by
  rw [runSteps_if (s := .fsyncDir) rfl rfl rfl]; split
  · exact .dirSync
  rw [runSteps_cons rfl, runSteps]
  simp only [exec]
  generalize hd' : (if w = true then inp.hotWal d else d) = d'
  cases hon : inp.integrityOn
  · exact .unchecked hon
  rw [if_neg (by simp)]
  split
  next hok => exact .checked d' hd'.symm hon (by simp at hok; exact hok.2)
  split
  next hc => exact .cancelled hc
  next hc => exact .removed (by simpa using hc)

theorem outcome_publish {D : Type} (inp : Inputs D) (d : D) (w sh : Bool)
    (hd : inp.decoded = some d) (hpre : inp.outPre = false) (hsz : inp.sizesOk = true) :
    Outcome inp w sh (resultOf (runSteps inp [.rename, .fsyncDir, .integrity]
      ⟨⟨.absent, .complete d, w, sh⟩, true, none, false⟩)) := by
  rw [runSteps_if (s := .rename) rfl rfl rfl]; split
  · exact .unpublished _ _ _ (by simp)
  exact .published d _ hd hpre hsz (published_runSteps inp d w sh)

/-- The steps both lists share, up to `f.Close()`; `h`: what follows (`rest`), run on a complete `.tmp`. -/
theorem outcome_prepare {D : Type} (inp : Inputs D) (w sh : Bool) (rest : List Step)
    (h : ∀ d, inp.decoded = some d → inp.outPre = false → inp.sizesOk = true →
      Outcome inp w sh (resultOf (runSteps inp rest
        ⟨⟨.absent, .complete d, inp.walPre, inp.shmPre⟩, true, none, false⟩))) :
    Outcome inp w sh (resultOf (runSteps inp
      (.statOutput :: .calcPlan :: .sizeCheck :: .mkdirParent :: .deferRmTmp :: .createTmp :: .decode
        :: .fsync :: .close :: rest) ⟨initFs inp, false, none, false⟩)) := by
  cases hpre : inp.outPre
  case true => rw [runSteps_refused inp _ hpre]; exact .untouched _ (by simp)
  have hfs : initFs inp = ⟨.absent, (initFs inp).tmp, inp.walPre, inp.shmPre⟩ := by
    simp only [initFs, hpre]; rfl
  rw [runSteps_if (s := .statOutput) rfl (exec_statOutput inp _ (by rw [hfs])) rfl]; split
  · exact .untouched _ (by simp)
  rw [runSteps_if (s := .calcPlan) rfl rfl rfl]; split
  · exact .untouched _ (by simp)
  rw [runSteps_if (s := .sizeCheck) rfl rfl rfl]; split
  · exact .untouched _ (by simp)
  next hsize => -- the rest of the proof is this arm, written at the same column
  rw [runSteps_if (s := .mkdirParent) rfl rfl rfl]; split
  · exact .untouched _ (by simp)
  -- `defer os.Remove(tmp)`: from here on `.tmp` is gone at return unless the process dies
  rw [hfs, runSteps_cons (s := .deferRmTmp) rfl]
  rw [runSteps_if (s := .createTmp) rfl rfl rfl]; split
  · exact .unpublished _ _ _ (by simp)
  rw [runSteps_if (s := .decode) rfl rfl rfl]; split
  · exact .crashed (by assumption)
  cases hf : inp.fails .decode
  case true => rw [runSteps_err _ _ _ _ rfl]; exact .unpublished .decode _ _ (by simp)
  cases hd : inp.decoded
  case none => rw [runSteps_err _ _ _ _ rfl]; exact .unpublished .decode _ _ (by simp)
  rename_i d
  show Outcome inp w sh (resultOf (runSteps inp _
    ⟨⟨.absent, .complete d, inp.walPre, inp.shmPre⟩, true, none, false⟩))
  rw [runSteps_if (s := .fsync) rfl rfl rfl]; split
  · exact .unpublished _ _ _ (by simp)
  rw [runSteps_if (s := .close) rfl rfl rfl]; split
  · exact .unpublished _ _ _ (by simp)
  exact h d hd hpre (by simp at hsize; exact hsize.2)

theorem restore_outcome {D : Type} (inp : Inputs D) :
    Outcome inp inp.walPre inp.shmPre (restore inp) :=
  outcome_prepare inp _ _ _ fun d hd hpre hsz => outcome_publish inp d _ _ hd hpre hsz

/-- with nothing lying beside the absent output the table is the one of the step list with `rmSidecars` -/
theorem restore_outcome_clean {D : Type} (inp : Inputs D) (hw : inp.walPre = false)
    (hs : inp.shmPre = false) : Outcome inp false false (restore inp) := by
  have := restore_outcome inp
  rwa [hw, hs] at this

theorem restoreFixed_outcome {D : Type} (inp : Inputs D) :
    Outcome inp false false (restoreWith restoreStepsFixed inp) := by
  refine outcome_prepare inp _ _ _ fun d hd hpre hsz => ?_
  rw [runSteps_if (s := .rmSidecars) rfl rfl rfl]; split
  · exact .unpublished _ _ _ (by simp)
  exact outcome_publish inp d _ _ hd hpre hsz

theorem Outcome.ok_clean {D : Type} {inp : Inputs D} {r : Fs D × Except Err D} {d : D}
    (ho : Outcome inp false false r) (h : r.2 = .ok d) :
    inp.decoded = some d ∧ inp.outPre = false ∧ inp.sizesOk = true
    ∧ r.1 = ⟨.complete d, .absent, false, false⟩ ∧ (inp.integrityOn = true → inp.integrityOk d = true) := by
  cases ho with
  | published d0 _ hd hpre hsz hpub =>
    cases hpub with
    | unchecked hoff => cases h; exact ⟨hd, hpre, hsz, rfl, fun hon => by rw [hoff] at hon; cases hon⟩
    | checked d' hd' _ hok => cases h; subst hd'; exact ⟨hd, hpre, hsz, rfl, fun _ => hok⟩
    | _ => cases h
  | _ => cases h

theorem initFs_out {D : Type} (inp : Inputs D) :
    (initFs inp).out = .pre ∧ inp.outPre = true ∨ (initFs inp).out = .absent := by
  cases h : inp.outPre <;> simp [initFs, h]

theorem initFs_tmp {D : Type} (inp : Inputs D) :
    (initFs inp).tmp = .pre ∧ inp.tmpPre = true ∨ (initFs inp).tmp = .absent := by
  cases h : inp.tmpPre <;> simp [initFs, h]

theorem mapOpt_eq_some_iff {α β : Type} (f : α → Option β) : ∀ (l : List α) (r : List β),
    mapOpt f l = some r ↔ l.map f = r.map some
  | [], r => by cases r <;> simp [mapOpt]
  | a :: as, [] => by rw [mapOpt]; split <;> simp
  | a :: as, b :: bs => by
    rw [mapOpt, List.map_cons, List.map_cons, List.cons.injEq, ← mapOpt_eq_some_iff f as bs]
    split
    next b' bs' h1 h2 => simp [h1, h2]
    next hno => exact ⟨fun h => (by cases h), fun h => absurd h.2 (hno b bs h.1)⟩

theorem mapOpt_mem {α β : Type} {f : α → Option β} {l : List α} {r : List β} (h : mapOpt f l = some r)
    {a : α} (ha : a ∈ l) : ∃ b ∈ r, f a = some b := by
  rw [mapOpt_eq_some_iff] at h
  obtain ⟨b, hb, hfb⟩ := List.mem_map.mp (h ▸ List.mem_map_of_mem ha)
  exact ⟨b, hb, hfb.symm⟩

theorem mapOpt_congr {α β : Type} {f g : α → Option β} {l : List α} {r : List β}
    (h : mapOpt f l = some r) (hg : ∀ a ∈ l, ∀ b, f a = some b → g a = some b) : mapOpt g l = some r := by
  have hfg : ∀ a ∈ l, g a = f a := fun a ha => by
    obtain ⟨b, _, hb⟩ := mapOpt_mem h ha
    rw [hb, hg a ha b hb]
  rw [mapOpt_eq_some_iff] at h ⊢
  rw [← h]
  exact List.map_congr_left hfg

theorem mapOpt_some {α β : Type} (g : α → β) (l : List α) :
    mapOpt (fun a => some (g a)) l = some (l.map g) := by
  rw [mapOpt_eq_some_iff, List.map_map]; rfl

theorem mapOpt_map {α β γ : Type} (f : β → Option γ) (g : α → β) (l : List α) :
    mapOpt f (l.map g) = mapOpt (fun a => f (g a)) l := by
  induction l with
  | nil => rfl
  | cons a as ih => simp only [List.map_cons, mapOpt, ih]

theorem resultOk?_eq_some_iff {D : Type} {x : Except Err D} {d : D} : resultOk? x = some d ↔ x = .ok d := by
  cases x <;> simp [resultOk?]

theorem verifyParse_eq_some_iff {L D : Type} {k : Codec L D} {b : List Nat} {l : L} :
    verifyParse k b = some l ↔ k.sumOk b = true ∧ k.parse b = some l := by
  unfold verifyParse
  split <;> simp [*]

theorem decodeStage_eq_some {L D : Type} {k : Codec L D} {files : List FileIn} {d : D}
    (h : decodeStage k files = some d) :
    ∃ bs ls l, mapOpt received files = some bs ∧ mapOpt (verifyParse k) bs = some ls
      ∧ k.compact ls = some l ∧ k.decodeDb l = some d := by
  unfold decodeStage at h
  split at h
  · cases h
  next bs hbs =>
  split at h
  · cases h
  next ls hls =>
  split at h
  · cases h
  next l hl => exact ⟨bs, ls, l, hbs, hls, hl, h⟩

end RestoreFlow
end Litestream
