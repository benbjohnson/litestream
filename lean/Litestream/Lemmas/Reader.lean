import Litestream.Model.Reader
import Litestream.Lemmas.List
/-! Invariant and post-condition of the resumable-reader model (Model/Reader.lean), for C10. Core Lean only. -/
namespace Litestream
namespace Reader

/-- Invariant of the reader state between (and inside) `Read` calls. `opens_le` is the budget: every
    `OpenLTXFile` call made is covered by the first open, a retry or a fatal error, and while the stream is
    closed and the error not yet sticky one more call is already accounted for (the reopen that must follow). -/
structure Inv (c : Cfg) (st : St) : Prop where
  off_le : st.offset ≤ c.content.length
  upos_eq : st.rcOpen = true → st.upos = st.offset
  retry_le : st.retryN ≤ c.maxRetries + 1
  sticky_iff : st.sticky = true ↔ st.retryN > c.maxRetries
  opens_le : st.opens + (if st.rcOpen = true ∨ st.sticky = true then 0 else 1)
              ≤ 1 + min st.retryN c.maxRetries + st.fatals

/-- What one `Read` started at offset `off` guarantees about its result. -/
structure Post (c : Cfg) (off : Nat) (r : ReadRes) : Prop where
  inv : Inv c r.1
  mono : off ≤ r.1.offset
  data : r.2.1 = (c.content.drop off).take (r.1.offset - off)
  nofuel : r.2.2 ≠ some .fuel
  eof : r.2.2 = some .eof → c.size = 0 ∨ c.size ≤ r.1.offset
  sticky : r.2.2 = some .maxRetries → r.1.sticky = true

/-- Rewriting with this turns every state below into a structure literal over the state the call started
    in, so the fields `pop` leaves alone need no transport. -/
theorem pop_snd (st : St) : (pop st).2 = { st with sched := st.sched.tail } := by
  cases st with | mk _ _ _ _ _ sched _ _ => cases sched <;> rfl

theorem uread_le (d : Option Dec) (p rem : Nat) : (uread d p rem).1 ≤ rem := by
  unfold uread
  cases d with
  | none =>
    dsimp only
    split
    · exact Nat.zero_le _
    · exact Nat.min_le_right _ _
  | some d => exact Nat.le_trans (Nat.min_le_right _ _) (Nat.min_le_right _ _)

theorem init_inv (c : Cfg) (sched : List Dec) (b : Bool) : Inv c (St.init sched b) := by
  constructor <;> simp [St.init]
  -- left: `opens_le`, whose `if` turns on whether the stream is handed over open
  cases b <;> simp

theorem Inv.not_sticky {c : Cfg} {st : St} (h : Inv c st) (hns : st.sticky = false) :
    st.retryN ≤ c.maxRetries := by
  simpa [hns] using h.sticky_iff

theorem Post.of_read {c : Cfg} {off n : Nat} {st' : St} {data : List Nat} {e : Option RErr}
    (hinv : Inv c st') (hoff : st'.offset = off + n) (hdata : data = (c.content.drop off).take n)
    (hfuel : e ≠ some .fuel) (heof : e = some .eof → c.size = 0 ∨ c.size ≤ st'.offset)
    (hst : e = some .maxRetries → st'.sticky = true) : Post c off (st', data, e) :=
  ⟨hinv, by simp [hoff], by simp [hoff, hdata], hfuel, heof, hst⟩

/-- `retry` is called with the stream closed, the error not sticky and every open so far paid for (a broken
    stream, or a reopen that failed). -/
theorem retry_inv (c : Cfg) (st : St) (hoff : st.offset ≤ c.content.length) (hcl : st.rcOpen = false)
    (hns : st.sticky = false) (hr : st.retryN ≤ c.maxRetries)
    (hop : st.opens ≤ 1 + min st.retryN c.maxRetries + st.fatals) :
    Inv c (retry c st).1 ∧ (retry c st).1.offset = st.offset ∧ (retry c st).1.retryN = st.retryN + 1
    ∧ (retry c st).1.sticky = (retry c st).2 := by
  unfold retry
  refine ⟨⟨hoff, by simp [hcl], by simp; omega, by simp [hns], ?_⟩, rfl, rfl, by simp [hns]⟩
  -- `opens_le`: once exhausted the state is sticky and owes no reopen; before that the reopen it owes is covered by
  -- the retry just counted (`min (retryN + 1) maxRetries = min retryN maxRetries + 1`)
  by_cases hex : st.retryN + 1 > c.maxRetries
  · simp [hex]; omega
  · simp [hcl, hns, hex]; omega

/-- What the loop's `continue` (the `k` of `afterFault`, `readBody`) has to deliver to a body entered with
    `r` retries spent: it is resumed one retry further on, not sticky, with the offset back at `off`. -/
def ContOk (c : Cfg) (off r : Nat) (k : St → ReadRes) : Prop :=
  ∀ st2, Inv c st2 → st2.sticky = false → st2.retryN = r + 1 → st2.offset = off → Post c off (k st2)

theorem afterFault_post (c : Cfg) (off n : Nat) (data : List Nat) (k : St → ReadRes) (st : St)
    (hinv : Inv c st) (hopen : st.rcOpen = true) (hns : st.sticky = false)
    (hn : st.offset = off + n) (hdata : data = (c.content.drop off).take n)
    (hk : ContOk c off st.retryN k) :
    Post c off (afterFault c n data k st) := by
  obtain ⟨hinv', ho, hrn, hst⟩ := retry_inv c { st with rcOpen := false } hinv.off_le rfl hns
    (hinv.not_sticky hns) (by simpa [hopen] using hinv.opens_le)
  unfold afterFault
  simp only
  split
  next hex => -- budget exhausted: `n` bytes and the sticky error
    exact .of_read hinv' (ho.trans hn) hdata (by simp) (by simp) fun _ => hst.trans hex
  split
  next => -- `n > 0`: the bytes are handed over, the reopen is left to the next call
    exact .of_read hinv' (ho.trans hn) hdata (by simp) (by simp) (by simp)
  next hex _ => -- `n = 0`: `continue`
    exact hk _ hinv' (hst.trans (by simpa using hex)) hrn (by rw [ho, hn]; omega)

theorem readBody_post (c : Cfg) (p off : Nat) (k : St → ReadRes) (st : St)
    (hinv : Inv c st) (hopen : st.rcOpen = true) (hns : st.sticky = false) (hoff : st.offset = off)
    (hk : ContOk c off st.retryN k) :
    Post c off (readBody c p k st) := by
  subst hoff
  have hle := uread_le (pop st).1 p (c.content.length - st.offset)
  have hol := hinv.off_le
  unfold readBody
  simp only [pop_snd, hinv.upos_eq hopen]
  generalize (uread (pop st).1 p (c.content.length - st.offset)).1 = n at hle
  generalize (uread (pop st).1 p (c.content.length - st.offset)).2 = e
  have hnew : Inv c { st with sched := st.sched.tail, offset := st.offset + n, upos := st.offset + n } :=
    ⟨by simp only; omega, fun _ => rfl, hinv.retry_le, hinv.sticky_iff, hinv.opens_le⟩
  have haf := afterFault_post c st.offset n _ k _ hnew hopen hns rfl rfl hk
  cases e with
  | none => exact .of_read hnew rfl rfl (by simp) (by simp) (by simp)
  | other => exact haf
  | eof =>
    simp only
    split
    · exact haf
    next hcond =>
      exact .of_read hnew rfl rfl (by simp) (fun _ => by simp only at hcond ⊢; omega) (by simp)

theorem readLoop_post (c : Cfg) (p fuel : Nat) (st : St) (hinv : Inv c st) (hns : st.sticky = false)
    (hf : c.maxRetries + 2 ≤ fuel + st.retryN) : Post c st.offset (readLoop c p fuel st) := by
  induction fuel generalizing st with
  | zero => have := hinv.retry_le; omega
  | succ fuel ih =>
    have hk : ContOk c st.offset st.retryN (readLoop c p fuel) :=
      fun st2 h1 h2 h3 h4 => h4 ▸ ih st2 h1 h2 (by omega)
    unfold readLoop
    split
    next hopen => exact readBody_post c p _ _ st hinv hopen hns rfl hk
    next hopen =>
      have hcl : st.rcOpen = false := by simpa using hopen
      have hop : st.opens + 1 ≤ 1 + min st.retryN c.maxRetries + st.fatals := by
        simpa [hcl, hns] using hinv.opens_le
      simp only [pop_snd]
      split
      next => -- fatal: returned at once, paid for by `fatals`
        exact .of_read (n := 0) ⟨hinv.off_le, hinv.upos_eq, hinv.retry_le, hinv.sticky_iff,
          by simp [hcl, hns]; omega⟩ rfl rfl (by simp) (by simp) (by simp)
      next => -- fail: a retry
        obtain ⟨hinv2, ho, hrn, hst⟩ := retry_inv c { st with sched := st.sched.tail, opens := st.opens + 1 }
          hinv.off_le hcl hns (hinv.not_sticky hns) hop
        split
        next hex => exact .of_read (n := 0) hinv2 ho rfl (by simp) (by simp) fun _ => hst.trans hex
        next hex => exact hk _ hinv2 (hst.trans (by simpa using hex)) hrn ho
      next => -- ok: the stream is open at `offset`
        exact readBody_post c p _ _ _
          ⟨hinv.off_le, fun _ => rfl, hinv.retry_le, hinv.sticky_iff, by simp; omega⟩ rfl hns rfl hk

theorem read_post (c : Cfg) (p : Nat) (st : St) (hinv : Inv c st) : Post c st.offset (read c p st) := by
  unfold read
  split
  next hs => exact .of_read (n := 0) hinv rfl rfl (by simp) (by simp) fun _ => hs
  next hs => exact readLoop_post c p _ st hinv (by simpa using hs) (by omega)

theorem Post.trans {c : Cfg} {off : Nat} {st : St} {data : List Nat} {r : ReadRes}
    (h1 : Post c off (st, data, none)) (h2 : Post c st.offset r) :
    Post c off (r.1, data ++ r.2.1, r.2.2) :=
  ⟨h2.inv, Nat.le_trans h1.mono h2.mono,
    by rw [show data = _ from h1.data, h2.data]; exact take_drop_append _ h1.mono h2.mono,
    h2.nofuel, h2.eof, h2.sticky⟩

theorem run_post (c : Cfg) : ∀ (bufs : List Nat) (st : St), Inv c st → Post c st.offset (run c bufs st)
  | [], st, hinv => .of_read (n := 0) hinv rfl rfl (by simp) (by simp) (by simp)
  | p :: ps, st, hinv => by
    have h1 := read_post c p st hinv
    rw [run]
    split
    next heq => rwa [heq] at h1
    next st' data heq =>
      rw [heq] at h1
      exact h1.trans (run_post c ps st' h1.inv)

end Reader
end Litestream
