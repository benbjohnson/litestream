import Litestream.Lemmas.Plan
/-! One cursor of the planner (`restoreLevelCursor` in replica.go): what `refresh` does to it, the
    invariant that ties it to the listing it reads, and what a refreshed cursor without a candidate
    says about that listing. Core Lean only. -/
namespace Litestream

def pickBetter (cand : Option FileInfo) (i : FileInfo) : FileInfo :=
  match cand with
  | none => i
  | some c => if better c i then i else c

theorem pickBetter_spec (cand : Option FileInfo) (i : FileInfo) :
    (pickBetter cand i = i ∨ cand = some (pickBetter cand i)) ∧
    i.max ≤ (pickBetter cand i).max ∧ ∀ c, cand = some c → c.max ≤ (pickBetter cand i).max := by
  cases cand with
  | none => exact ⟨Or.inl rfl, Nat.le_refl _, nofun⟩
  | some c =>
    simp only [pickBetter, Option.some.injEq, forall_eq']
    split
    · next h => exact ⟨Or.inl rfl, Nat.le_refl _, better_true_max h⟩
    · next h => exact ⟨Or.inr rfl, better_false_max (by simpa using h), Nat.le_refl _⟩

/-- The candidate of a cursor at `cur` after it has looked at `i`. -/
def offer (cur : Nat) (tg : Target) (cand : Option FileInfo) (i : FileInfo) : Option FileInfo :=
  if i.max ≤ cur then cand else if !elig tg i then cand else some (pickBetter cand i)

/-- The two `continue`s and the comparison of `refresh`'s `for` loop are all in `offer`. -/
theorem scan_cons (cur : Nat) (tg : Target) (i : FileInfo) (rest : List FileInfo) (cand : Option FileInfo) :
    Cursor.scan cur tg (i :: rest) cand =
      if i.min > cur + 1 then ⟨i :: rest, cand, false⟩ else Cursor.scan cur tg rest (offer cur tg cand i) := by
  cases cand <;>
    simp only [Cursor.scan, offer, pickBetter, apply_ite some, apply_ite (Cursor.scan cur tg rest)]

theorem offer_spec (cur : Nat) (tg : Target) (cand : Option FileInfo) (i : FileInfo) :
    (∀ k, offer cur tg cand i = some k → cand = some k ∨ (k = i ∧ elig tg i = true)) ∧
    (∀ c, cand = some c → ∃ k, offer cur tg cand i = some k ∧ c.max ≤ k.max) ∧
    (elig tg i = true → cur < i.max → ∃ k, offer cur tg cand i = some k ∧ i.max ≤ k.max) := by
  unfold offer
  by_cases h1 : i.max ≤ cur
  · rw [if_pos h1]
    exact ⟨fun _ => Or.inl, fun c hc => ⟨c, hc, Nat.le_refl _⟩, fun _ hlt => absurd hlt (by omega)⟩
  rw [if_neg h1]
  by_cases h2 : (!elig tg i) = true
  · rw [if_pos h2]
    exact ⟨fun _ => Or.inl, fun c hc => ⟨c, hc, Nat.le_refl _⟩, fun he _ => by simp [he] at h2⟩
  rw [if_neg h2]
  have ⟨hpick, hi, hcand⟩ := pickBetter_spec cand i
  refine ⟨fun k hk => ?_, fun c hc => ⟨_, rfl, hcand c hc⟩, fun _ _ => ⟨_, rfl, hi⟩⟩
  cases hk
  exact hpick.symm.imp id fun hi => ⟨hi, by simpa using h2⟩

/-- What a cursor over listing `L` knows at `cur`, with `pre` the consumed prefix. -/
structure CInv (tg : Target) (L : List FileInfo) (cur : Nat) (c : Cursor) (pre : List FileInfo) : Prop where
  split : L = pre ++ c.rest
  /-- consumed files connect to `cur`: whichever becomes the candidate may be appended to the plan -/
  preMin : ∀ f ∈ pre, f.min ≤ cur + 1
  candOK : ∀ k, c.cand = some k → k ∈ pre ∧ elig tg k = true
  /-- the candidate reaches at least as far as every consumed eligible file that still extends `cur`;
      so a cursor without candidate has consumed nothing that would extend `cur` (`CInv.closed`) -/
  dom : ∀ f ∈ pre, elig tg f = true → cur < f.max → ∃ k, c.cand = some k ∧ f.max ≤ k.max
  doneRest : c.done = true → c.rest = []

/-- After a refresh: the next unread file starts beyond `cur + 1`. -/
def Fresh (cur : Nat) (c : Cursor) : Prop := ∀ f, c.rest.head? = some f → cur + 1 < f.min

theorem Fresh.of_cons {cur c g gs} (hf : Fresh cur c) (hr : c.rest = g :: gs) : cur + 1 < g.min :=
  hf g (by rw [hr]; rfl)

theorem CInv.init (tg : Target) (L : List FileInfo) (cur : Nat) : CInv tg L cur ⟨L, none, false⟩ [] where
  split := rfl
  preMin := nofun
  candOK := nofun
  dom := nofun
  doneRest := nofun

theorem CInv.mono {tg L cur c pre} (h : CInv tg L cur c pre) {cur' : Nat} (hle : cur ≤ cur') :
    CInv tg L cur' c pre :=
  { h with
    preMin := fun f hf => Nat.le_trans (h.preMin f hf) (by omega)
    dom := fun f hf he hlt => h.dom f hf he (by omega) }

/-- A candidate that ends at or below `cur` may be dropped. -/
theorem CInv.prune {tg L cur c pre} (h : CInv tg L cur c pre) {cand' : Option FileInfo}
    (h1 : ∀ k, cand' = some k → c.cand = some k) (h2 : ∀ k, c.cand = some k → cur < k.max → cand' = some k) :
    CInv tg L cur { c with cand := cand' } pre where
  split := h.split
  preMin := h.preMin
  candOK := fun k hk => h.candOK k (h1 k hk)
  dom := fun f hf he hlt =>
    have ⟨k, hk, hm⟩ := h.dom f hf he hlt
    ⟨k, h2 k hk (by omega), hm⟩
  doneRest := h.doneRest

theorem CInv.consume {tg L cur i rest cand d pre} (h : CInv tg L cur ⟨i :: rest, cand, d⟩ pre)
    (hmin : i.min ≤ cur + 1) : CInv tg L cur ⟨rest, offer cur tg cand i, d⟩ (pre ++ [i]) :=
  have ⟨hfrom, hkeep, hnew⟩ := offer_spec cur tg cand i
  { split := by simpa using h.split
    preMin := List.forall_mem_append.mpr ⟨h.preMin, List.forall_mem_singleton.mpr hmin⟩
    candOK := by
      intro k hk
      rcases hfrom k hk with hk | ⟨rfl, he⟩
      · exact ⟨List.mem_append_left _ (h.candOK k hk).1, (h.candOK k hk).2⟩
      · exact ⟨by simp, he⟩
    dom := List.forall_mem_append.mpr ⟨fun f hf he hlt =>
        have ⟨k, hk, hm⟩ := h.dom f hf he hlt
        have ⟨k', hk', hm'⟩ := hkeep k hk
        ⟨k', hk', Nat.le_trans hm hm'⟩,
      List.forall_mem_singleton.mpr hnew⟩
    doneRest := fun hd => nomatch h.doneRest hd }

theorem scan_inv {tg : Target} {L : List FileInfo} {cur : Nat} {d : Bool} {rest pre : List FileInfo}
    {cand : Option FileInfo} (h : CInv tg L cur ⟨rest, cand, d⟩ pre) :
    (∃ pre', CInv tg L cur (Cursor.scan cur tg rest cand) pre') ∧ Fresh cur (Cursor.scan cur tg rest cand) := by
  induction rest generalizing pre cand with
  | nil => exact ⟨⟨pre, { h with doneRest := fun _ => rfl }⟩, fun f hf => nomatch hf⟩
  | cons i rest ih =>
    rw [scan_cons]
    split
    · next hmin =>
      exact ⟨⟨pre, { h with doneRest := fun hd => nomatch hd }⟩, fun f hf => by cases hf; exact hmin⟩
    · exact ih (h.consume (by omega))

theorem dropStale_eq_some {cur : Nat} {cand : Option FileInfo} {k : FileInfo} :
    dropStale cur cand = some k ↔ cand = some k ∧ cur < k.max := by
  cases cand with
  | none => exact ⟨nofun, fun h => nomatch h.1⟩
  | some c =>
    rw [dropStale]
    split
    · exact ⟨nofun, fun ⟨h, hlt⟩ => by cases h; omega⟩
    · exact ⟨fun h => by cases h; exact ⟨rfl, by omega⟩, fun h => h.1⟩

theorem refresh_inv {tg L cur c pre} (h : CInv tg L cur c pre) :
    (∃ pre', CInv tg L cur (Cursor.refresh cur tg c) pre') ∧ Fresh cur (Cursor.refresh cur tg c) := by
  unfold Cursor.refresh
  split
  · next hd => exact ⟨⟨pre, h⟩, fun f hf => by rw [h.doneRest hd] at hf; cases hf⟩
  · exact scan_inv
      (h.prune (fun k hk => (dropStale_eq_some.mp hk).1) fun k hk hlt => dropStale_eq_some.mpr ⟨hk, hlt⟩)

theorem CInv.clear {tg L cur c pre k} (h : CInv tg L cur c pre) (hk : c.cand = some k) (hle : k.max ≤ cur) :
    CInv tg L cur { c with cand := none } pre :=
  h.prune (fun _ h => nomatch h) fun k' hk' hlt => by rw [hk] at hk'; cases hk'; omega

theorem CInv.cand {tg L cur c pre k} (h : CInv tg L cur c pre) (hk : c.cand = some k) :
    k ∈ L ∧ elig tg k = true ∧ k.min ≤ cur + 1 :=
  have ⟨h1, h2⟩ := h.candOK k hk
  ⟨h.split ▸ List.mem_append_left _ h1, h2, h.preMin k h1⟩

theorem CInv.closed {tg L cur c pre} (h : CInv tg L cur c pre) (hf : Fresh cur c) (hn : c.cand = none)
    (hs : SortedMin L) : ∀ f ∈ L, elig tg f = true → f.min ≤ cur + 1 → f.max ≤ cur := by
  intro f hfL he hmin
  rw [h.split] at hfL hs
  rcases List.mem_append.mp hfL with hfL | hfL
  · refine Nat.le_of_not_lt fun hlt => ?_
    have ⟨k, hk, _⟩ := h.dom f hfL he hlt
    rw [hn] at hk; cases hk
  · -- an unread file starts no earlier than the head of `rest`, and that starts beyond `cur + 1`
    obtain ⟨g, gs, hr⟩ := List.exists_cons_of_ne_nil (List.ne_nil_of_mem hfL)
    have hg := hf.of_cons hr
    rw [hr] at hfL hs
    rcases List.mem_cons.mp hfL with rfl | hfL
    · omega
    · have := (List.pairwise_cons.mp (List.pairwise_append.mp hs).2.1).1 f hfL
      omega

/-- The left side is the test `hasGap` makes on one cursor. -/
theorem CInv.gap_iff {tg L cur c pre} (h : CInv tg L cur c pre) (hf : Fresh cur c) :
    (match c.rest with | [] => false | f :: _ => decide (f.min > cur + 1)) = true ↔
      ∃ f ∈ L, cur + 1 < f.min := by
  rw [h.split]
  cases hr : c.rest with
  | nil =>
    refine ⟨nofun, fun ⟨f, hf, hlt⟩ => ?_⟩
    have := h.preMin f (by simpa using hf)
    omega
  | cons g gs =>
    have hg := hf.of_cons hr
    exact ⟨fun _ => ⟨g, by simp, hg⟩, fun _ => decide_eq_true hg⟩

/-- The summand of `measure`: files a cursor may still yield. -/
def csize (c : Cursor) : Nat := c.rest.length + (if c.cand.isSome then 1 else 0)

theorem csize_scan_le (tg : Target) (cur : Nat) (rest : List FileInfo) (cand : Option FileInfo) :
    csize (Cursor.scan cur tg rest cand) ≤ rest.length + (if cand.isSome then 1 else 0) := by
  induction rest generalizing cand with
  | nil => exact Nat.le_refl _
  | cons i rest ih =>
    rw [scan_cons]
    split
    · exact Nat.le_refl _
    · have := ih (offer cur tg cand i)
      simp only [List.length_cons]
      split at this <;> omega

theorem csize_refresh_le (tg : Target) (cur : Nat) (c : Cursor) : csize (Cursor.refresh cur tg c) ≤ csize c := by
  unfold Cursor.refresh
  split
  · exact Nat.le_refl _
  · have := csize_scan_le tg cur c.rest (dropStale cur c.cand)
    have h2 : (if (dropStale cur c.cand).isSome then 1 else 0) ≤ (if c.cand.isSome then 1 else 0) := by
      cases c.cand with
      | none => exact Nat.le_refl _
      | some k => rw [dropStale]; split <;> simp
    unfold csize at *
    omega

end Litestream
