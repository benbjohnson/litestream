import Litestream.Model.SyncStep
import Litestream.Lemmas.LtxChain
/-! Invariant of the L0 chain litestream writes, and how `txnFiles`, `run` and `RunOK` split over their input
    (`Model/SyncStep.lean`; C01, C02). Core Lean only. -/
namespace Litestream.Sy
open Litestream

/-- Anchor "file" carrying only a size: lets `growthFrom` talk about growth from the current database size. -/
def sizeAnchor (n : Nat) : Ltx := ⟨0, 0, n, 0, []⟩

/-- What SQLite guarantees about the transactions of one round (validated by the engine):
    pages lie within the new size, never the lock page or page 0, and every page by which
    the database grows is written by the transaction that grows it. -/
structure SegOK (lock : Nat) (size next : Nat) (seg : List Txn) : Prop where
  pages : ∀ x ∈ txnFiles next seg, PagesOk lock x
  -- `PagesOk` at lock page 0 says "no file holds page 0", so that `applyAll_lock_zero` keeps page 0 empty too
  pos : ∀ x ∈ txnFiles next seg, PagesOk 0 x
  growth : growthFrom lock (sizeAnchor size) (txnFiles next seg)

def StepOK (lock : Nat) (w : World) : Step → Prop
  | .incr seg => seg ≠ [] ∧ w.files ≠ [] ∧ SegOK lock w.truth.size w.next seg
  | .snap seg => SegOK lock w.truth.size w.next seg

theorem SegOK.chainOK {lock size next : Nat} {seg : List Txn} (h : SegOK lock size next seg) :
    ChainOK lock (txnFiles next seg) := ⟨h.pages, h.growth.growthComplete⟩

theorem StepOK.segOK {lock : Nat} {w : World} {s : Step} (h : StepOK lock w s) :
    SegOK lock w.truth.size w.next (stepSeg s) := by
  cases s with
  | incr seg => exact h.2.2
  | snap seg => exact h

theorem snapFile_look (lock txid : Nat) (d : Db) (p : Nat) :
    (snapFile lock txid d).look p = if 1 ≤ p ∧ p ≤ d.size ∧ p ≠ lock then some (d.page p) else none :=
  look_snapshotShape ..

theorem apply_snapFile {lock txid : Nat} {d base : Db} (hl : d.page lock = 0) (h0 : d.page 0 = 0)
    (bl : base.page lock = 0) (b0 : base.page 0 = 0) : (base.apply (snapFile lock txid d)).Same d := by
  refine ⟨rfl, fun p => ?_⟩
  rw [apply_page, snapFile_look]
  show (if p ≤ d.size then _ else 0) = d.page p
  split
  next hp =>
    split
    · rfl
    next hc =>
      -- inside the size the snapshot leaves out only page 0 and the lock page
      show base.page p = d.page p
      by_cases hz : p = 0
      · rw [hz, b0, h0]
      · have : p = lock := Classical.byContradiction fun hne => hc ⟨by omega, hp, hne⟩
        rw [this, bl, hl]
  next hp => exact (Db.page_of_size_lt (by omega)).symm

def lastFile : List Ltx → Option Ltx
  | [] => none
  | f :: r => some (lastOf f r)

theorem lastFile_eq_getLast? : ∀ fs : List Ltx, lastFile fs = fs.getLast?
  | [] => rfl
  | [_] => rfl
  | _ :: g :: r => (lastFile_eq_getLast? (g :: r)).trans List.getLast?_cons_cons.symm

theorem lastOf_mem (f : Ltx) (r : List Ltx) : lastOf f r ∈ f :: r :=
  List.mem_of_getLast? (lastFile_eq_getLast? (f :: r)).symm

theorem applyAll_nil_size (d : Db) (fs : List Ltx) (l : Ltx) (h : lastFile fs = some l) : (applyAll d fs).size = l.commit := by
  cases fs with
  | nil => cases h
  | cons f r => cases h; exact applyAll_size d f r

theorem growthComplete_snoc {lock : Nat} (fs : List Ltx) (g : Ltx) (h : GrowthComplete lock fs)
    (hl : ∀ l, lastFile fs = some l → growthLink lock l g) : GrowthComplete lock (fs ++ [g]) := by
  cases fs with
  | nil => trivial
  | cons f r =>
    exact growthComplete_cons.mpr ((growthFrom_append f r [g]).mpr ⟨growthComplete_cons.mp h, hl _ rfl, trivial⟩)

/-- `lastCommit` ties the size the next round grows from (`sizeAnchor w.truth.size`) to the last file, so that the
    round's `growthLink` continues the chain (`Inv.snoc`). `zeroZero`: a snapshot leaves out page 0 as well as the lock
    page, so both must be empty on either side wherever one is applied (`apply_snapFile`). -/
structure Inv (lock : Nat) (w : World) : Prop where
  truth : (applyAll Db.empty w.files).Same w.truth
  pagesOk : ∀ x ∈ w.files, PagesOk lock x
  growth : GrowthComplete lock w.files
  lastCommit : ∀ l, lastFile w.files = some l → l.commit = w.truth.size
  lockZero : w.truth.page lock = 0
  zeroZero : w.truth.page 0 = 0

theorem inv_init (lock : Nat) : Inv lock World.init where
  truth := Db.Same.refl _
  pagesOk := by intro x hx; cases hx
  growth := trivial
  lastCommit := by intro l h; cases h
  lockZero := empty_page lock
  zeroZero := empty_page 0

theorem Inv.snoc {lock : Nat} {w : World} (hi : Inv lock w) {T : Db} {g : Ltx} {n : Nat}
    (hT : (w.truth.apply g).Same T) (hg : PagesOk lock g) (hgrow : growthLink lock (sizeAnchor w.truth.size) g)
    (h0 : T.page 0 = 0) : Inv lock ⟨T, w.files ++ [g], n⟩ where
  truth := by
    show (applyAll Db.empty (w.files ++ [g])).Same T
    rw [applyAll_append]
    exact (apply_congr hi.truth g).trans hT
  pagesOk := List.forall_mem_append.mpr ⟨hi.pagesOk, List.forall_mem_singleton.mpr hg⟩
  growth := growthComplete_snoc _ _ hi.growth fun l hl p h1 => hgrow p (hi.lastCommit l hl ▸ h1)
  lastCommit := by
    intro l hl
    rw [lastFile_eq_getLast?, List.getLast?_concat] at hl
    cases hl
    exact hT.1
  lockZero := (hT.2 lock).symm.trans (apply_lock_zero hg.2 hi.lockZero)
  zeroZero := h0

def StepFile (lock : Nat) (w : World) : Step → Ltx → Prop
  | .incr seg, g => compact lock (txnFiles w.next seg) = .ok g
  | .snap seg, g => g = snapFile lock w.next (applyAll w.truth (txnFiles w.next seg))

theorem step_eq_some {lock : Nat} {w w' : World} {s : Step} (h : step lock w s = some w') :
    ∃ g, StepFile lock w s g ∧
      w' = ⟨applyAll w.truth (txnFiles w.next (stepSeg s)), w.files ++ [g], w.next + (stepSeg s).length⟩ := by
  cases s with
  | incr seg =>
    unfold step at h
    simp only at h
    split at h
    next g hc => exact ⟨g, hc, (Option.some.inj h).symm⟩
    · cases h  -- the encoder refuses the file
  | snap seg => exact ⟨_, rfl, (Option.some.inj h).symm⟩

theorem stepFile_ok {lock : Nat} {w : World} {s : Step} {g : Ltx} (hi : Inv lock w) (hok : StepOK lock w s)
    (hg : StepFile lock w s g) :
    (w.truth.apply g).Same (applyAll w.truth (txnFiles w.next (stepSeg s))) ∧ PagesOk lock g ∧
      growthLink lock (sizeAnchor w.truth.size) g := by
  have hseg := hok.segOK
  cases s with
  | incr seg =>
    exact ⟨(compact_equiv_core hg hseg.chainOK w.truth hi.lockZero).symm, compact_pagesOk hg hseg.pages,
      compact_growthLink (s1 := []) hg (compact_ok hg).ne hseg.growth⟩
  | snap seg =>
    subst hg
    refine ⟨apply_snapFile (applyAll_lock_zero hseg.pages hi.lockZero)
      (applyAll_lock_zero hseg.pos hi.zeroZero) hi.lockZero hi.zeroZero, pagesOk_snapshotShape .., ?_⟩
    intro p h1 h2 h3
    rw [snapFile_look, if_pos ⟨by omega, h2, h3⟩]; rfl

theorem inv_step {lock : Nat} {w w' : World} {s : Step} (hi : Inv lock w) (hok : StepOK lock w s)
    (hs : step lock w s = some w') : Inv lock w' := by
  obtain ⟨g, hg, rfl⟩ := step_eq_some hs
  obtain ⟨hT, hp, hgr⟩ := stepFile_ok hi hok hg
  exact hi.snoc hT hp hgr (applyAll_lock_zero hok.segOK.pos hi.zeroZero)

def RunOK (lock : Nat) : World → List Step → Prop
  | _, [] => True
  | w, s :: ss => StepOK lock w s ∧ ∀ w', step lock w s = some w' → RunOK lock w' ss

theorem inv_run {lock : Nat} {ss : List Step} {w w' : World} (hi : Inv lock w) (hok : RunOK lock w ss)
    (hr : run lock w ss = some w') : Inv lock w' := by
  induction ss generalizing w with
  | nil => cases hr; exact hi
  | cons s ss ih =>
    rw [run] at hr
    split at hr
    · cases hr  -- the round fails
    next w1 hst => exact ih (inv_step hi hok.1 hst) (hok.2 w1 hst) hr

theorem txnFiles_append (i : Nat) (a b : List Txn) : txnFiles i (a ++ b) = txnFiles i a ++ txnFiles (i + a.length) b := by
  induction a generalizing i with
  | nil => rfl
  | cons t ts ih =>
    simp only [List.cons_append, txnFiles, List.length_cons, ih]
    rw [show i + 1 + ts.length = i + (ts.length + 1) by omega]

theorem run_append {lock : Nat} (a b : List Step) (w : World) :
    run lock w (a ++ b) = (run lock w a).bind fun w1 => run lock w1 b := by
  induction a generalizing w with
  | nil => rfl
  | cons s a ih =>
    rw [List.cons_append, run, run]
    cases step lock w s with
    | none => rfl
    | some w1 => exact ih w1

theorem RunOK.take {lock : Nat} : ∀ {ss : List Step} {w : World}, RunOK lock w ss → ∀ k, RunOK lock w (ss.take k)
  | [], _, _, _ => by rw [List.take_nil]; trivial
  | _ :: _, _, _, 0 => trivial
  | _ :: _, _, h, k + 1 => ⟨h.1, fun w' hw' => (h.2 w' hw').take k⟩

end Litestream.Sy
