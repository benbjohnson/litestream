import Litestream.Lemmas.FollowPlan
/-! Helper lemmas for C16 (follow mode): an applier that walks a chain of replica files keeps its
    image at the true state of its TXID; the kill-step view of a poll; what the resume validation
    accepts. Core Lean only. -/
namespace Litestream.Follow
open Litestream

/-! The follower over the functional database of Model/Follow.lean and the one over the logical LTX
    model (Props/C16Catchup.lean) differ in the type `β` of a file's content, the type `δ` of the
    database image, `apply`, and what "image `d` is the true state at TXID `c`" (`At d c`) means; the
    argument is the same. -/

section Applier
variable {α β δ : Type} (info : α → FileInfo) (body : α → β)

/-- `OpenLTXFile(level,min,max)` over any kind of replica file (`content`, `C16.lcontent`). -/
def lookup (r : List α) (f : FileInfo) : Option β :=
  (r.find? (fun rf => (info rf).level == f.level && (info rf).min == f.min && (info rf).max == f.max)).map body

theorem lookup_listed {r : List α} {f : FileInfo} (hf : f ∈ r.map info) :
    ∃ rf ∈ r, lookup info body r f = some (body rf) ∧ (info rf).min = f.min ∧ (info rf).max = f.max := by
  obtain ⟨rf0, hrf0, rfl⟩ := List.mem_map.mp hf
  unfold lookup
  cases hfind : r.find? _ with
  | none => simpa using List.find?_eq_none.mp hfind rf0 hrf0  -- impossible: `rf0` has the key looked for
  | some rf =>
    have hp := List.find?_some hfind
    simp only [Bool.and_eq_true, beq_iff_eq] at hp
    exact ⟨rf, List.mem_of_find?_eq_some hfind, rfl, hp.1.2, hp.2⟩

variable (apply : δ → β → δ) (At : δ → Nat → Prop)

/-- The catch-up contract (`C16.CatchUp`, `C16.LCatchUp`) in invariant form. -/
def CatchesUp (r : List α) : Prop :=
  ∀ rf ∈ r, ∀ c d, (info rf).min ≤ c + 1 → c < (info rf).max → At d c → At (apply d (body rf)) (info rf).max

variable {info body apply At}

theorem foldl_chain {r : List α} (h : CatchesUp info body apply At r) :
    ∀ {plan : List FileInfo} {c e : Nat} {d : δ}, Chain (· ∈ r.map info) c plan e → At d c →
      At ((plan.filterMap (lookup info body r)).foldl apply d) e
  | [], _, _, _, hp, hd => Chain.nil_iff.mp hp ▸ hd
  | f :: rest, c, e, d, hp, hd => by
    obtain ⟨hf, h1, h2, hrest⟩ := Chain.cons_iff.mp hp
    obtain ⟨rf, hrf, hlook, hmin, hmax⟩ := lookup_listed info body hf
    rw [List.filterMap_cons_some hlook, List.foldl_cons]
    refine foldl_chain h hrest ?_
    rw [← hmax]
    exact h rf hrf c d (hmin ▸ h1) (hmax ▸ h2) hd

theorem poll_chain {r : List α} (h : CatchesUp info body apply At r) (c : Nat) (d : δ) (hd : At d c) :
    c ≤ pollTxid (r.map info) c ∧
    At (((pollPlan (r.map info) c).filterMap (lookup info body r)).foldl apply d) (pollTxid (r.map info) c) :=
  ⟨le_pollTxid _ c, foldl_chain h (chain_pollPlan _ c) hd⟩

end Applier

/-- `iter` is given by its two equations, so that `pollN r` and `C16.lpollN r` both fit. -/
theorem iterate_reaches {σ : Type} {step : σ → σ} {iter : Nat → σ → σ}
    (h0 : ∀ s, iter 0 s = s) (hS : ∀ n s, iter (n + 1) s = iter n (step s))
    (pos : σ → Nat) (Inv : σ → Prop) (N : Nat)
    (hstep : ∀ s, Inv s → pos s < N → Inv (step s) ∧ pos s < pos (step s) ∧ pos (step s) ≤ N)
    (s : σ) (hs : Inv s) (hle : pos s ≤ N) : ∃ n, pos (iter n s) = N ∧ Inv (iter n s) := by
  generalize hk : N - pos s = k
  induction k using Nat.strongRecOn generalizing s with
  | _ k ih =>
    by_cases heq : pos s = N
    · exact ⟨0, by rw [h0]; exact ⟨heq, hs⟩⟩
    · obtain ⟨h1, h2, h3⟩ := hstep s hs (Nat.lt_of_le_of_ne hle heq)
      obtain ⟨n, hn⟩ := ih (N - pos (step s)) (by omega) (step s) h1 h3 rfl
      exact ⟨n + 1, by rw [hS]; exact hn⟩

theorem run_append (fol : Fol) (a b : List Step) : fol.run (a ++ b) = (fol.run a).run b :=
  List.foldl_append

theorem run_writes : ∀ (ps : List (Nat × Tok)) (fol : Fol),
    fol.run (ps.map (fun e => Step.write e.1 e.2)) = ⟨fol.db.writePages ps, fol.txid⟩
  | [], _ => rfl
  | e :: ps, fol => run_writes ps (fol.step (.write e.1 e.2))

theorem run_bodySteps (fol : Fol) (b : Body) : fol.run (bodySteps b) = ⟨fol.db.applyBody b, fol.txid⟩ := by
  unfold bodySteps Db.applyBody
  rw [run_append, run_writes]
  split <;> rfl

theorem run_bodies : ∀ (bs : List Body) (fol : Fol),
    fol.run (bs.flatMap bodySteps) = ⟨fol.db.applyAll bs, fol.txid⟩
  | [], _ => rfl
  | b :: bs, fol => by
    rw [List.flatMap_cons, run_append, run_bodySteps, run_bodies bs]
    rfl

theorem run_no_sidecar (ss : List Step) (hs : ∀ t, Step.sidecar t ∉ ss) (fol : Fol) :
    (fol.run ss).txid = fol.txid :=
  List.foldlRecOn (motive := fun f => f.txid = fol.txid) ss Fol.step rfl fun f hf s hmem => by
    cases s with
    | write p t => exact hf
    | trunc n => exact hf
    | sidecar t => exact absurd hmem (hs t)

theorem bodySteps_no_sidecar (b : Body) (t : Nat) : Step.sidecar t ∉ bodySteps b := by
  unfold bodySteps
  split <;> simp

theorem take_pollSteps {r : Replica} {fol : Fol} {k : Nat} (hk : k < (pollSteps r fol).length) :
    (pollSteps r fol).take k = ((bodies r (pollPlan (infos r) fol.txid)).flatMap bodySteps).take k := by
  -- the sidecar, if it is written, is one step at the end
  have hlast : (pollSteps r fol).length ≤ ((bodies r (pollPlan (infos r) fol.txid)).flatMap bodySteps).length + 1 := by
    refine Nat.le_trans (Nat.le_of_eq List.length_append) (Nat.add_le_add_left ?_ _)
    split
    · exact Nat.le_refl 1
    · exact Nat.zero_le 1
  exact List.take_append_of_le_length (Nat.le_of_lt_succ (Nat.lt_of_lt_of_le hk hlast))

theorem resumeCheck_ok (b : ResumeBound) (fs : List FileInfo) (txid : Nat) (h1 : 1 ≤ txid)
    (hs : ∀ s, (listLevel fs snapshotLevel).getLast? = some s → s.min ≤ txid ∧
      txid ≤ match b with
        | .latestSnapshot => s.max
        | .replicaMax => Nat.max s.max (maxInfoTx (fs.filter (fun f => decide (f.level < snapshotLevel))))) :
    resumeCheck b fs txid = .ok () := by
  unfold resumeCheck
  rw [if_neg (by omega)]
  cases hl : (listLevel fs snapshotLevel).getLast? with
  | none => rfl
  | some s =>
    obtain ⟨ha, hb⟩ := hs s hl
    simp only
    rw [if_neg (by omega), if_neg (by cases b <;> exact Nat.not_lt.mpr hb)]

end Litestream.Follow
