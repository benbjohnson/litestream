import Litestream.Lemmas.Ltx
/-! Chains of logical LTX files (`Model/Ltx.lean`; C06, C01, C16): growth-completeness, the page view of a chain applied in
    order, L-compact, L-catchup, restore plans. -/
namespace Litestream

/-- `b` holds every page by which it grows the database past `a.commit`, the lock page apart (db.go `writeLTXFromWAL`
    appends such pages from the database file: `growthPages` of `Model/LockPage.lean`). -/
def growthLink (lock : Nat) (a b : Ltx) : Prop :=
  ∀ p, a.commit < p → p ≤ b.commit → p ≠ lock → (b.look p).isSome = true

/-- Only the commit of the anchor `a` matters; it need not be a file of any chain (`Sy.sizeAnchor`). -/
def growthFrom (lock : Nat) : Ltx → List Ltx → Prop
  | _, [] => True
  | a, b :: t => growthLink lock a b ∧ growthFrom lock b t

/-- Each file is a `growthLink` from the one before it; nothing is asked of the first. -/
def GrowthComplete (lock : Nat) : List Ltx → Prop
  | [] => True
  | f :: fs => growthFrom lock f fs

theorem growthComplete_cons {lock : Nat} {f : Ltx} {fs : List Ltx} :
    GrowthComplete lock (f :: fs) ↔ growthFrom lock f fs := Iff.rfl

theorem growthFrom.growthComplete {lock : Nat} {a : Ltx} {fs : List Ltx} (h : growthFrom lock a fs) :
    GrowthComplete lock fs := by
  cases fs with
  | nil => trivial
  | cons b t => exact growthComplete_cons.mpr h.2

theorem growthFrom.anchor {lock : Nat} {a a' : Ltx} {fs : List Ltx} (h : growthFrom lock a fs)
    (e : a'.commit = a.commit) : growthFrom lock a' fs := by
  cases fs with
  | nil => trivial
  | cons b t => exact ⟨fun p h1 => h.1 p (e ▸ h1), h.2⟩

theorem growthFrom_append {lock : Nat} (f : Ltx) (r s : List Ltx) :
    growthFrom lock f (r ++ s) ↔ growthFrom lock f r ∧ growthFrom lock (lastOf f r) s := by
  induction r generalizing f with
  | nil => simp [growthFrom, lastOf]
  | cons g r ih => simp only [List.cons_append, growthFrom, lastOf, ih g, and_assoc]

theorem growthComplete_append {lock : Nat} {a b : List Ltx} (h : GrowthComplete lock (a ++ b)) :
    GrowthComplete lock a ∧ GrowthComplete lock b := by
  cases a with
  | nil => exact ⟨trivial, h⟩
  | cons f r =>
    have h' := (growthFrom_append f r b).mp (growthComplete_cons.mp h)
    exact ⟨h'.1, h'.2.growthComplete⟩

/-- Why growth-completeness is asked for: inside the range by which a chain has grown the database, a page that
    no file holds can only be the lock page, so no stale image comes back when a database shrinks and grows again. -/
theorem growth_lock {lock p : Nat} {fs : List Ltx} {a : Ltx} (h : growthFrom lock a fs) (ha : a.commit < p)
    (hp : p ≤ (lastOf a fs).commit) (hn : latest fs p = none) : p = lock := by
  induction fs generalizing a with
  | nil => exact absurd hp (Nat.not_le_of_gt ha)
  | cons b t ih =>
    rw [latest_cons, Option.or_eq_none_iff] at hn
    by_cases hb : p ≤ b.commit
    · apply Decidable.byContradiction
      intro hl
      have := h.1 p ha hb hl
      rw [hn.2] at this; cases this
    · exact ih h.2 (Nat.lt_of_not_le hb) hp hn.1

/-- What a chain must satisfy for its in-order application to have the page view `applyAll_page`. -/
structure ChainOK (lock : Nat) (fs : List Ltx) : Prop where
  pagesOk : ∀ x ∈ fs, PagesOk lock x
  growth : GrowthComplete lock fs

theorem ChainOK.append {lock : Nat} {a b : List Ltx} (h : ChainOK lock (a ++ b)) : ChainOK lock a ∧ ChainOK lock b :=
  have hp := List.forall_mem_append.mp h.pagesOk
  have hg := growthComplete_append h.growth
  ⟨⟨hp.1, hg.1⟩, ⟨hp.2, hg.2⟩⟩

theorem applyAll_page {lock : Nat} {fs : List Ltx} {d : Db} (h : ChainOK lock fs) (hd : d.page lock = 0) (p : Nat) :
    (applyAll d fs).page p = if p ≤ (applyAll d fs).size then (latest fs p).getD (d.page p) else 0 := by
  induction fs generalizing d with
  | nil =>
    show d.page p = if p ≤ d.size then d.page p else 0
    split
    · rfl
    · exact Db.page_of_size_lt (by omega)
  | cons f rest ih =>
    have hf := h.pagesOk f List.mem_cons_self
    rw [applyAll, ih (h.append (a := [f])).2 (apply_lock_zero hf.2 hd), latest_cons, Option.getD_or]
    split
    next hp =>
      cases hl : latest rest p with
      | some t => rfl
      | none =>
        show (d.apply f).page p = (f.look p).getD (d.page p)
        rw [apply_page]
        split
        · rfl
        next hpf =>
          -- `f` cut the database below `p` and at the end it is back over `p`, though no later file holds `p`
          rw [hf.look_of_commit_lt (by omega),
            growth_lock (growthComplete_cons.mp h.growth) (by omega) (applyAll_size d f rest ▸ hp) hl]
          exact hd.symm
    · rfl

theorem applyAll_page_untouched {lock : Nat} {fs : List Ltx} {d : Db} (h : ChainOK lock fs) (hd : d.page lock = 0)
    {p : Nat} (hn : latest fs p = none) (hp : p ≤ (applyAll d fs).size) : (applyAll d fs).page p = d.page p := by
  rw [applyAll_page h hd, if_pos hp, hn]; rfl

/-- L-catchup of DESIGN §2: a compacted file applied on top of a part `s1` of its own inputs gives what the whole run
    gives. The lock page of `d` must be empty: a chain may cut the database below the lock page and grow back over it
    with no file holding it (`growth_lock`); applied in order that erases `d`'s lock page, while through `g` it shows. -/
theorem catchup_core {lock : Nat} {s1 s2 : List Ltx} {g : Ltx} (hc : compact lock (s1 ++ s2) = .ok g)
    (h : ChainOK lock (s1 ++ s2)) (d : Db) (hd : d.page lock = 0) :
    ((applyAll d s1).apply g).Same (applyAll d (s1 ++ s2)) := by
  have hs := compact_commit hc d
  refine ⟨hs, fun p => ?_⟩
  rw [apply_page, (compact_ok hc).look p, applyAll_page h hd, ← hs]
  split
  next hp =>
    cases hn : latest (s1 ++ s2) p with
    | some t => rfl
    | none =>
      -- no file of the run holds `p`: the page of `d` and the page after `s1` both show through to the end of the run
      rw [hs] at hp
      have e := applyAll_page_untouched h hd hn hp
      rw [latest_append, Option.or_eq_none_iff] at hn
      rw [applyAll_append] at hp e
      exact (applyAll_page_untouched h.append.2 (applyAll_lock_zero h.append.1.pagesOk hd) hn.1 hp).symm.trans e
  · rfl

/-- L-compact of DESIGN §2: L-catchup with nothing applied yet. -/
theorem compact_equiv_core {lock : Nat} {fs : List Ltx} {g : Ltx} (hc : compact lock fs = .ok g)
    (h : ChainOK lock fs) (d : Db) (hd : d.page lock = 0) : (applyAll d fs).Same (d.apply g) :=
  (catchup_core (s1 := []) hc h d hd).symm

/-- `s1` (inputs before the anchor `a`: an overlap) is arbitrary: every page the link asks for is held by `s2`, whose
    files win in `latest`. -/
theorem compact_growthLink {lock : Nat} {a : Ltx} {s1 s2 : List Ltx} {g : Ltx} (hc : compact lock (s1 ++ s2) = .ok g)
    (hne : s2 ≠ []) (hg : growthFrom lock a s2) : growthLink lock a g := by
  intro p h1 h2 h3
  rw [(compact_ok hc).look p, if_pos h2, latest_append]
  cases hl : latest s2 p with
  | some t => rfl
  | none => exact absurd (growth_lock hg h1 (compact_commit_lastOf hc hne a ▸ h2) hl) h3

theorem catchup_prefix {lock : Nat} {pre s1 s2 : List Ltx} {g : Ltx} (hc : compact lock (s1 ++ s2) = .ok g)
    (h : ChainOK lock (pre ++ s1 ++ s2)) :
    ((applyAll Db.empty (pre ++ s1)).apply g).Same (applyAll Db.empty (pre ++ s1 ++ s2)) := by
  rw [List.append_assoc] at h ⊢
  rw [applyAll_append, applyAll_append]
  exact catchup_core hc h.append.2 _ (applyAll_lock_zero h.append.1.pagesOk (empty_page lock))

/-- `PlanChain lock done todo plan`: `plan` is a restore plan over the L0 files `todo`, which follow the L0 files
    `done` that are already covered. Every plan file is the compaction of a
    run of L0 files that starts no later than one past what is already covered
    (`s1` = overlap with what is covered, possibly empty) and extends it (`s2 ≠ []`)
    — the planner's and ltx's relation `min ≤ cur+1 ∧ max > cur`. -/
inductive PlanChain (lock : Nat) : List Ltx → List Ltx → List Ltx → Prop
  | done (d : List Ltx) : PlanChain lock d [] []
  | step {pre s1 s2 rest plan : List Ltx} {g : Ltx} : s2 ≠ [] → compact lock (s1 ++ s2) = .ok g →
      PlanChain lock (pre ++ s1 ++ s2) rest plan → PlanChain lock (pre ++ s1) (s2 ++ rest) (g :: plan)

theorem planChain_apply {lock : Nat} {dn todo plan : List Ltx} (h : PlanChain lock dn todo plan)
    (hok : ChainOK lock (dn ++ todo)) :
    (applyAll (applyAll Db.empty dn) plan).Same (applyAll Db.empty (dn ++ todo)) := by
  induction h with
  | done d => rw [List.append_nil]; exact Db.Same.refl _
  | @step pre s1 s2 rest plan g hne hc _ ih =>
    rw [← List.append_assoc] at hok ⊢
    exact (applyAll_congr (catchup_prefix hc hok.append.1) plan).trans (ih hok)

theorem planChain_pagesOk {lock : Nat} {dn todo plan : List Ltx} (h : PlanChain lock dn todo plan)
    (hok : ∀ x ∈ dn ++ todo, PagesOk lock x) : ∀ x ∈ plan, PagesOk lock x := by
  induction h with
  | done d => exact nofun
  | @step pre s1 s2 rest plan g hne hc _ ih =>
    rw [← List.append_assoc] at hok
    refine List.forall_mem_cons.mpr ⟨compact_pagesOk hc fun y hy => hok y ?_, ih hok⟩
    exact List.mem_append_left rest (List.append_assoc pre s1 s2 ▸ List.mem_append_right pre hy)

/-- Anchored at an arbitrary file `a`, so that nothing is needed about what is already covered (`dn`). -/
theorem planChain_growthFrom {lock : Nat} {dn todo plan : List Ltx} (h : PlanChain lock dn todo plan) (a : Ltx)
    (ha : growthFrom lock a todo) : growthFrom lock a plan := by
  induction h generalizing a with
  | done d => trivial
  | @step pre s1 s2 rest plan g hne hc _ ih =>
    have ha' := (growthFrom_append a s2 rest).mp ha
    exact ⟨compact_growthLink hc hne ha'.1, ih g (ha'.2.anchor (compact_commit_lastOf hc hne a))⟩

theorem planChain_growthComplete {lock : Nat} {dn todo plan : List Ltx} (h : PlanChain lock dn todo plan)
    (hg : GrowthComplete lock todo) : GrowthComplete lock plan := by
  cases todo with
  | nil => exact (planChain_growthFrom h default trivial).growthComplete
  | cons f fs =>
    -- `f` anchors its own chain: it does not grow the database over itself
    exact (planChain_growthFrom h f
      ⟨fun p h1 h2 => absurd h2 (Nat.not_le_of_gt h1), growthComplete_cons.mp hg⟩).growthComplete

end Litestream
