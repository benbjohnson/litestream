import Litestream.Lemmas.WalMap
/-! The loop of `pageMap` over a list of frames against the declarative spec (`mxFrame`, `lastIdx`,
    `commitOf`): the loop invariant, and the tail of `pageMap` (trim, end offset) in terms of what SQLite
    recovers from the same frames. List level; `recover_eq` alone speaks of bytes. -/
namespace Litestream.Wal

theorem lastIdxP_succ (p : Frame → Bool) (vp : List Frame) (i : Nat) :
    lastIdxP p vp (i + 1) = match vp[i]? with
      | some f => if p f then some i else lastIdxP p vp i
      | none => lastIdxP p vp i := rfl

theorem lastIdxP_lt {p : Frame → Bool} {vp : List Frame} {n i : Nat} (h : lastIdxP p vp n = some i) : i < n := by
  fun_induction lastIdxP p vp n with
  | case1 => cases h
  | case2 n f hg hp => cases h; exact Nat.lt_succ_self _  -- frame `n` satisfies `p`
  | case3 n f hg hp ih => exact Nat.lt_succ_of_lt (ih h)  -- frame `n` does not
  | case4 n hg ih => exact Nat.lt_succ_of_lt (ih h)  -- no frame `n`

theorem lastIdxP_append_le (p : Frame → Bool) (pre suf : List Frame) (n : Nat) (hn : n ≤ pre.length) :
    lastIdxP p (pre ++ suf) n = lastIdxP p pre n := by
  induction n with
  | zero => rfl
  | succ n ih =>
    rw [lastIdxP_succ, lastIdxP_succ, List.getElem?_append_left (by omega), ih (by omega)]

theorem lastIdxP_snoc (p : Frame → Bool) (pre : List Frame) (f : Frame) :
    lastIdxP p (pre ++ [f]) (pre.length + 1) = if p f then some pre.length else lastIdxP p pre pre.length := by
  have : (pre ++ [f])[pre.length]? = some f := by simp
  rw [lastIdxP_succ, this, lastIdxP_append_le p pre [f] pre.length (Nat.le_refl _)]

theorem mxFrame_le (vp : List Frame) : mxFrame vp ≤ vp.length := by
  unfold mxFrame
  cases h : lastIdxP (fun f => f.commit != 0) vp vp.length with
  | none => exact Nat.zero_le _
  | some i => exact lastIdxP_lt h

theorem mxFrame_snoc (pre : List Frame) (f : Frame) :
    mxFrame (pre ++ [f]) = if f.commit ≠ 0 then pre.length + 1 else mxFrame pre := by
  unfold mxFrame
  rw [List.length_append, List.length_singleton, lastIdxP_snoc]
  by_cases hc : f.commit = 0 <;> simp [hc]

@[simp] theorem mxFrame_nil : mxFrame [] = 0 := rfl

/-- Invariant of the loop after consuming the accepted frames `pre` (from frame index 0). `m_get`, `m_bound`: the
    committed map is the spec's lookup up to the last commit frame. `all_get`, `tx_bound`: with the open transaction
    `st.tx` laid over it, it is the lookup up to the last frame read; this is what a commit frame merges. -/
structure Inv (ps : Nat) (pre : List Frame) (st : PMState) : Prop where
  m_get : ∀ pg, pmGet st.m pg = (lastIdx pre pg (mxFrame pre)).map (frameOff ps)
  all_get : ∀ pg, orElse' (pmGet st.tx pg) (pmGet st.m pg) = (lastIdx pre pg pre.length).map (frameOff ps)
  commit : st.commit = commitOf pre (mxFrame pre)
  m_bound : ∀ p ∈ st.m, ∃ i, i < mxFrame pre ∧ p.2 = frameOff ps i
  tx_bound : ∀ p ∈ st.tx, ∃ i, i < pre.length ∧ p.2 = frameOff ps i

theorem inv_nil (ps : Nat) : Inv ps [] {} := by
  refine ⟨?_, ?_, ?_, ?_, ?_⟩ <;> simp [lastIdx, lastIdxP, orElse', commitOf]

theorem lastIdx_snoc (pre : List Frame) (f : Frame) (pg : Nat) :
    lastIdx (pre ++ [f]) pg (pre.length + 1) = if f.pgno = pg then some pre.length else lastIdx pre pg pre.length := by
  unfold lastIdx; rw [lastIdxP_snoc]; by_cases h : f.pgno = pg <;> simp [h]

theorem commitOf_append_le (pre suf : List Frame) (n : Nat) (hn : n ≤ pre.length) :
    commitOf (pre ++ suf) n = commitOf pre n := by
  unfold commitOf
  split
  · rfl
  · rw [List.getElem?_append_left (by omega)]

theorem commitOf_snoc (pre : List Frame) (f : Frame) : commitOf (pre ++ [f]) (pre.length + 1) = f.commit := by
  simp [commitOf]

theorem inv_step (ps : Nat) (pre : List Frame) (f : Frame) (st : PMState) (h : Inv ps pre st) :
    Inv ps (pre ++ [f]) (pmStep ps pre.length f st) := by
  have hmx := mxFrame_le pre
  have hlen : (pre ++ [f]).length = pre.length + 1 := List.length_append
  -- in both branches the frame first enters the open transaction
  have hall : ∀ pg, orElse' (pmGet (pmSet st.tx f.pgno (frameOff ps pre.length)) pg) (pmGet st.m pg)
      = (lastIdx (pre ++ [f]) pg (pre.length + 1)).map (frameOff ps) := by
    intro pg
    rw [pmGet_set, lastIdx_snoc]
    by_cases hp : f.pgno = pg
    · rw [if_pos hp, if_pos hp]; rfl
    · rw [if_neg hp, if_neg hp]; exact h.all_get pg
  have hbound : ∀ p ∈ pmSet st.tx f.pgno (frameOff ps pre.length),
      ∃ i, i < pre.length + 1 ∧ p.2 = frameOff ps i := by
    intro p hp
    rcases mem_pmSet hp with rfl | hp
    · exact ⟨pre.length, Nat.lt_succ_self _, rfl⟩
    · obtain ⟨i, hi, he⟩ := h.tx_bound p hp
      exact ⟨i, Nat.lt_succ_of_lt hi, he⟩
  unfold pmStep
  by_cases hc : f.commit ≠ 0
  · -- commit frame: the transaction is merged, everything up to this frame is committed
    rw [if_pos hc]
    have hmx' : mxFrame (pre ++ [f]) = pre.length + 1 := by rw [mxFrame_snoc, if_pos hc]
    refine ⟨fun pg => ?_, fun pg => ?_, ?_, fun p hp => ?_, fun p hp => nomatch hp⟩
    · rw [hmx', pmGet_merge]; exact hall pg
    · rw [hlen]; exact (pmGet_merge ..).trans (hall pg)
    · rw [hmx', commitOf_snoc]
    · rw [hmx']
      rcases mem_pmMerge hp with hp | hp
      · exact hbound p hp
      · obtain ⟨i, hi, he⟩ := h.m_bound p hp
        exact ⟨i, Nat.lt_succ_of_le (Nat.le_trans (Nat.le_of_lt hi) hmx), he⟩
  · -- the committed part does not change
    rw [if_neg hc]
    have hmx' : mxFrame (pre ++ [f]) = mxFrame pre := by rw [mxFrame_snoc, if_neg hc]
    refine ⟨fun pg => ?_, fun pg => ?_, ?_, fun p hp => ?_, fun p hp => ?_⟩
    · rw [hmx']
      exact (h.m_get pg).trans (congrArg _ (lastIdxP_append_le _ pre [f] _ hmx).symm)
    · rw [hlen]; exact hall pg
    · rw [hmx', commitOf_append_le pre [f] _ hmx]; exact h.commit
    · rw [hmx']; exact h.m_bound p hp
    · rw [hlen]; exact hbound p hp

theorem pmList_inv (ps start : Nat) (pre suf : List Frame) (st : PMState) (h : Inv ps pre st) :
    Inv ps (pre ++ suf) (pmList ps start 0 pre.length suf st).1 := by
  induction suf generalizing pre st with
  | nil => rwa [List.append_nil]
  | cons f rest ih =>
    have := ih (pre ++ [f]) _ (inv_step ps pre f st h)
    rw [pmList_cons0]
    simpa using this  -- `this` speaks of `(pre ++ [f]) ++ rest` and of the index `(pre ++ [f]).length`

theorem pmList_inv_start (ps start : Nat) (vp : List Frame) : Inv ps vp (pmList ps start 0 0 vp {}).1 :=
  pmList_inv ps start [] vp {} (inv_nil ps)

/-- What SQLite's recovery yields from the valid prefix `vp`. -/
def recoveredOf (ps : Nat) (vp : List Frame) : Recovered :=
  { mx := mxFrame vp, commit := commitOf vp (mxFrame vp), vp := vp, ps := ps }

theorem recover_eq (b : Bytes) (h : Hdr) (hh : parseHdr b = .ok h) (hps : goodPageSize h.ps = true) :
    recover b = some (recoveredOf h.ps (sqPrefix h b)) := by
  unfold recover; rw [hh]; simp only [hps, if_true]; rfl

theorem pmFinish_limited (ps : Nat) (st : PMState) (lim : Bool) : (pmFinish ps st lim).limited = lim := by
  unfold pmFinish; dsimp only; split <;> rfl

theorem pmFinish_get (ps : Nat) (st : PMState) (lim : Bool) (pg : Nat) :
    pmGet (pmFinish ps st lim).m pg = if pg ≤ st.commit then pmGet st.m pg else none := by
  have hf := pmGet_filter (fun k => decide (k ≤ st.commit)) st.m pg
  simp only [decide_eq_true_eq] at hf
  unfold pmFinish; dsimp only
  split
  next he => rw [← hf, List.isEmpty_iff.mp he]  -- nothing survives the trim
  next => exact hf

theorem pmFinish_nil (ps : Nat) (st : PMState) (lim : Bool) (hm : st.m = []) :
    pmFinish ps st lim = { m := [], end_ := 0, commit := 0, limited := lim } := by
  unfold pmFinish; rw [hm]; rfl

theorem pmFinish_of_max {ps : Nat} {st : PMState} (lim : Bool) {p : Nat × Nat} (hp : p ∈ st.m)
    (hle : p.1 ≤ st.commit) (hmax : ∀ q ∈ st.m, q.2 ≤ p.2) :
    (pmFinish ps st lim).commit = st.commit ∧ (pmFinish ps st lim).end_ = p.2 + (fhSize + ps) := by
  have hkept : p ∈ st.m.filter (fun p => decide (p.1 ≤ st.commit)) :=
    List.mem_filter.mpr ⟨hp, decide_eq_true hle⟩
  have hoff := pmMaxOff_eq hkept fun q hq => hmax q (List.mem_filter.mp hq).1
  unfold pmFinish; dsimp only
  rw [if_neg (fun he => by rw [List.isEmpty_iff.mp he] at hkept; cases hkept), hoff]
  exact ⟨rfl, rfl⟩

theorem pmFinish_look {ps : Nat} {vp : List Frame} {st : PMState} (hinv : Inv ps vp st) (lim : Bool) (pg : Nat) :
    pmGet (pmFinish ps st lim).m pg = (recoveredOf ps vp).look pg := by
  rw [pmFinish_get, hinv.commit, hinv.m_get]
  unfold Recovered.look recoveredOf
  by_cases hp : pg ≤ commitOf vp (mxFrame vp)
  · rw [if_pos hp, if_neg (Nat.not_lt_of_le hp)]
  · rw [if_neg hp, if_pos (Nat.lt_of_not_le hp)]

/-- `r` is a variable so that `hk` has, syntactically, the shape `C09.commitKept_iff` yields: asked whether
    `(recoveredOf ps vp).mx` is `mxFrame vp`, the unifier unfolds `mxFrame` and `lastIdxP` first. -/
theorem pmFinish_end {ps : Nat} {vp : List Frame} {st : PMState} (hinv : Inv ps vp st) (lim : Bool)
    {r : Recovered} (hr : r = recoveredOf ps vp)
    (hk : r.mx = 0 ∨ ∃ f, r.vp[r.mx - 1]? = some f ∧ f.pgno ≤ r.commit) :
    (pmFinish ps st lim).commit = r.commit ∧ (pmFinish ps st lim).end_ = r.end_ := by
  subst hr
  unfold Recovered.end_ recoveredOf at *
  dsimp only at hk ⊢
  by_cases h0 : mxFrame vp = 0
  · -- no commit frame: nothing was ever merged
    have hm : st.m = [] := List.eq_nil_iff_forall_not_mem.mpr fun p hp =>
      let ⟨i, hi, _⟩ := hinv.m_bound p hp
      Nat.not_lt_zero i (h0 ▸ hi)
    rw [pmFinish_nil ps st lim hm, if_pos h0, h0]
    exact ⟨rfl, rfl⟩
  · -- the last commit frame's own entry is kept and has the highest offset
    obtain ⟨f, hget, hle⟩ := hk.resolve_left h0
    obtain ⟨n, hn⟩ := Nat.exists_eq_succ_of_ne_zero h0
    rw [hn, Nat.succ_sub_one] at hget
    have hlook : lastIdx vp f.pgno (mxFrame vp) = some n := by
      unfold lastIdx
      rw [hn, lastIdxP_succ, hget]
      simp
    have hmem : (f.pgno, frameOff ps n) ∈ st.m := pmGet_some_mem (by rw [hinv.m_get, hlook]; rfl)
    rw [if_neg h0, hn, frameOff_succ, ← hn, ← hinv.commit]
    refine pmFinish_of_max lim hmem (hinv.commit ▸ hle) fun q hq => ?_
    obtain ⟨i, hi, he⟩ := hinv.m_bound q hq
    rw [he]
    exact frameOff_mono ps (Nat.le_of_lt_succ (hn ▸ hi))

end Litestream.Wal
