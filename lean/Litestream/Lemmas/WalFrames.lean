import Litestream.Lemmas.WalMap
/-! The byte-level reader of `Model/Wal.lean` against the valid prefix of the spec: a reader standing at
    frame `k` of `lsPrefix` delivers exactly the rest of `lsPrefix`, through `ReadFrame` and through `pageMap`;
    `NewWALReader` and `NewWALReaderWithOffset` produce such readers. -/
namespace Litestream.Wal

theorem frame_complete_iff (ps len i : Nat) :
    frameOff ps i + (fhSize + ps) ≤ len ↔ i < (len - hdrSize) / (fhSize + ps) := by
  have hpos : 0 < fhSize + ps := Nat.add_pos_left (by decide) ps
  unfold frameOff
  rw [Nat.lt_iff_add_one_le, Nat.le_div_iff_mul_le hpos, Nat.add_mul, Nat.one_mul]
  omega  -- `hdrSize`, `fhSize` are `abbrev`s, so `omega` sees `32` and `24`; `i * (24 + ps)` is an atom to it

@[simp] theorem rawFrames_length (ps : Nat) (b : Bytes) :
    (rawFrames ps b).length = (b.length - hdrSize) / (fhSize + ps) := by
  simp [rawFrames]

theorem rawFrames_length_le (ps : Nat) (b : Bytes) : (rawFrames ps b).length ≤ b.length := by
  rw [rawFrames_length]
  exact Nat.le_trans (Nat.div_le_self _ _) (Nat.sub_le _ _)

theorem frameAt_eq (ps : Nat) (b : Bytes) (i : Nat) : frameAt ps b i = (rawFrames ps b)[i]? := by
  unfold frameAt rawFrames
  by_cases h : i < (b.length - hdrSize) / (fhSize + ps)
  · rw [if_pos ((frame_complete_iff ps b.length i).mpr h), List.getElem?_map, List.getElem?_range h]; rfl
  · rw [if_neg (fun hc => h ((frame_complete_iff ps b.length i).mp hc))]
    exact (List.getElem?_eq_none (by rw [List.length_map, List.length_range]; exact Nat.le_of_not_lt h)).symm

-- `j + i`, not `i + j`: at `i = 0` the index is `j` by computation, which `nValid_valid` and `nValid_stop` use
theorem countPrefix_spec (p : Nat → Bool) (n i : Nat) :
    countPrefix p n i ≤ n ∧ (∀ j, j < countPrefix p n i → p (j + i) = true) ∧
      (countPrefix p n i < n → p (countPrefix p n i + i) = false) := by
  fun_induction countPrefix p n i with
  | case1 => exact ⟨Nat.le_refl 0, nofun, nofun⟩  -- `n = 0`
  | case2 n i hp ih =>  -- `p i`
    refine ⟨Nat.succ_le_succ ih.1, fun j h => ?_, fun h => ?_⟩
    · cases j with
      | zero => rwa [Nat.zero_add]
      | succ j => rw [Nat.succ_add_eq_add_succ]; exact ih.2.1 j (Nat.lt_of_succ_lt_succ h)
    · rw [Nat.succ_add_eq_add_succ]; exact ih.2.2 (Nat.lt_of_succ_lt_succ h)
  | case3 n i hp =>  -- `¬ p i`: the count stops here
    exact ⟨Nat.zero_le _, nofun, fun _ => by rw [Nat.zero_add]; exact Bool.eq_false_iff.mpr hp⟩

theorem nValid_le (p : Nat → Bool) (fs : List Frame) : nValid p fs ≤ fs.length := (countPrefix_spec p _ 0).1

theorem nValid_valid (p : Nat → Bool) (fs : List Frame) (i : Nat) (hi : i < nValid p fs) : p i = true :=
  (countPrefix_spec p fs.length 0).2.1 i hi

theorem nValid_stop (p : Nat → Bool) (fs : List Frame) (h : nValid p fs < fs.length) : p (nValid p fs) = false :=
  (countPrefix_spec p fs.length 0).2.2 h

theorem lsPrefix_length (h : Hdr) (b : Bytes) :
    (lsPrefix h b).length = nValid (lsValidAt h (rawFrames h.ps b)) (rawFrames h.ps b) := by
  unfold lsPrefix
  exact (List.length_take ..).trans (Nat.min_eq_left (nValid_le _ _))

theorem chainCk_succ (h : Hdr) (fs : List Frame) (n : Nat) (f : Frame) (hget : fs[n]? = some f) :
    chainCk h fs (n + 1) = ckStep h.be (chainCk h fs n) f := by
  unfold chainCk; rw [List.take_add_one, hget]; simp [List.foldl_append]

theorem lsValidAt_iff (h : Hdr) (fs : List Frame) (k : Nat) :
    lsValidAt h fs k = true ↔
      ∃ f, fs[k]? = some f ∧ f.salt = h.salt ∧ ckStep h.be (chainCk h fs k) f = f.ck := by
  unfold lsValidAt
  cases hget : fs[k]? with
  | none => simp
  | some f =>
    rw [chainCk_succ h fs k f hget]
    simp only [Bool.and_eq_true, beq_iff_eq, Option.some.injEq, exists_eq_left']
    exact and_congr_right fun _ => eq_comm

theorem sqPrefix_eq_lsPrefix (h : Hdr) (b : Bytes)
    (hz : ∀ i, lsValidAt h (rawFrames h.ps b) i = true → sqValidAt h (rawFrames h.ps b) i = true) :
    sqPrefix h b = lsPrefix h b := by
  have : sqValidAt h (rawFrames h.ps b) = lsValidAt h (rawFrames h.ps b) := by
    funext i
    cases hl : lsValidAt h (rawFrames h.ps b) i with
    | true => exact hz i hl
    | false => unfold sqValidAt; rw [hl]; rfl
  unfold sqPrefix lsPrefix
  simp only [this]

theorem lsPrefix_getElem? (h : Hdr) (b : Bytes) {i : Nat} (hi : i < (lsPrefix h b).length) :
    ∃ f, (lsPrefix h b)[i]? = some f ∧ (rawFrames h.ps b)[i]? = some f ∧ f.salt = h.salt ∧
      ckStep h.be (chainCk h (rawFrames h.ps b) i) f = f.ck := by
  have hi' := lsPrefix_length h b ▸ hi
  obtain ⟨f, hget, hs, hc⟩ := (lsValidAt_iff h _ i).mp (nValid_valid _ _ i hi')
  exact ⟨f, (List.getElem?_take_of_lt hi').trans hget, hget, hs, hc⟩

/-- The reader standing before frame `k` of the valid prefix: header parameters, running checksum chained
    over the first `k` frames. -/
def readerAt (b : Bytes) (h : Hdr) (k : Nat) : Reader :=
  { b := b, be := h.be, ps := h.ps, salt := h.salt, ck := chainCk h (rawFrames h.ps b) k, frameN := k }

theorem readerAt_ps (b : Bytes) (h : Hdr) (k : Nat) : (readerAt b h k).ps = h.ps := rfl

theorem readerAt_succ_offset (b : Bytes) (h : Hdr) (k : Nat) : (readerAt b h (k + 1)).offset = frameOff h.ps k := by
  simp [Reader.offset, readerAt, frameOff]

/-- `WALChecksum` does not panic for the page sizes SQLite accepts. -/
theorem goodPageSize_mod8 {ps : Nat} (h : goodPageSize ps = true) : ps % 8 = 0 := by
  simp only [goodPageSize, Bool.or_eq_true, beq_iff_eq] at h
  omega

theorem readFrame_readerAt (b : Bytes) (h : Hdr) (h8 : h.ps % 8 = 0) (k : Nat) (hk : k ≤ (lsPrefix h b).length) :
    readFrame (readerAt b h k) = match (lsPrefix h b)[k]? with
      | some f => .ok (readerAt b h (k + 1), f.pgno, f.commit)
      | none => .error .eof := by
  have hlen := lsPrefix_length h b
  have hv := lsValidAt_iff h (rawFrames h.ps b) k
  unfold readFrame readFrameCore
  rw [frameAt_eq]
  show (match (rawFrames h.ps b)[k]? with | none => _ | some f => _) = _
  by_cases hlt : k < (lsPrefix h b).length
  · -- inside the prefix: frame `k` passes litestream's test
    obtain ⟨f, hpre, hget, hs, hc⟩ := lsPrefix_getElem? h b hlt
    rw [hpre, hget]
    simp [readerAt, hs, hc, h8, chainCk_succ h _ k f hget]
  · -- at its end: there is no complete frame `k`, or it fails the test
    rw [List.getElem?_eq_none_iff.mpr (Nat.le_of_not_lt hlt)]
    cases hget : (rawFrames h.ps b)[k]? with
    | none => rfl
    | some f =>
      have hkn : k = nValid (lsValidAt h (rawFrames h.ps b)) (rawFrames h.ps b) :=
        hlen ▸ Nat.le_antisymm hk (Nat.le_of_not_lt hlt)
      have hstop := nValid_stop (lsValidAt h (rawFrames h.ps b)) (rawFrames h.ps b)
        (hkn ▸ (List.getElem?_eq_some_iff.mp hget).1)
      rw [← hkn] at hstop
      by_cases hs : f.salt = h.salt
      · have hc : ¬ ckStep h.be (chainCk h (rawFrames h.ps b) k) f = f.ck := fun hc => by
          rw [hv.mpr ⟨f, hget, hs, hc⟩] at hstop; cases hstop
        simp [readerAt, hs, h8, hc]
      · simp [readerAt, hs]

theorem pmLoop_readerAt (b : Bytes) (h : Hdr) (h8 : h.ps % 8 = 0) (start mx fuel k : Nat) (st : PMState)
    (hk : k ≤ (lsPrefix h b).length) (hf : (lsPrefix h b).length < k + fuel) :
    pmLoop fuel (readerAt b h k) start mx st = .ok (pmList h.ps start mx k ((lsPrefix h b).drop k) st) := by
  induction fuel generalizing k st with
  | zero => exact absurd hk (Nat.not_le_of_lt hf)
  | succ fuel ih =>
    have hf' : (lsPrefix h b).length < k + 1 + fuel := by rw [Nat.add_right_comm]; exact hf
    unfold pmLoop
    rw [readFrame_readerAt b h h8 k hk]
    cases hget : (lsPrefix h b)[k]? with
    | none => rw [List.drop_eq_nil_of_le (List.getElem?_eq_none_iff.mp hget)]; rfl
    | some f =>
      have hlt : k < (lsPrefix h b).length := (List.getElem?_eq_some_iff.mp hget).1
      rw [drop_eq_cons_of_getElem? hget]
      simp only [pmList, readerAt_succ_offset, readerAt_ps]
      by_cases hc : f.commit ≠ 0
      · simp only [if_pos hc]
        split
        · rfl  -- the budget is reached
        · exact ih (k + 1) _ hlt hf'
      · simp only [if_neg hc]
        exact ih (k + 1) _ hlt hf'

theorem readAll_readerAt (b : Bytes) (h : Hdr) (h8 : h.ps % 8 = 0) (fuel k : Nat)
    (hk : k ≤ (lsPrefix h b).length) (hf : (lsPrefix h b).length < k + fuel) :
    readAll fuel (readerAt b h k) = (((lsPrefix h b).drop k).map (fun f => (f.pgno, f.commit)), .eof) := by
  induction fuel generalizing k with
  | zero => exact absurd hk (Nat.not_le_of_lt hf)
  | succ fuel ih =>
    have hf' : (lsPrefix h b).length < k + 1 + fuel := by rw [Nat.add_right_comm]; exact hf
    unfold readAll
    rw [readFrame_readerAt b h h8 k hk]
    cases hget : (lsPrefix h b)[k]? with
    | none => rw [List.drop_eq_nil_of_le (List.getElem?_eq_none_iff.mp hget)]; rfl
    | some f =>
      have hlt : k < (lsPrefix h b).length := (List.getElem?_eq_some_iff.mp hget).1
      simp only [ih (k + 1) hlt hf', drop_eq_cons_of_getElem? hget, List.map_cons]

/-- `pageMap` and `framesRead` pass more fuel than there are frames. -/
theorem lsPrefix_length_lt_fuel (h : Hdr) (b : Bytes) (k : Nat) : (lsPrefix h b).length < k + (b.length + 1) := by
  rw [lsPrefix_length]
  exact Nat.lt_of_le_of_lt (Nat.le_trans (nValid_le _ _) (rawFrames_length_le h.ps b))
    (Nat.lt_of_lt_of_le (Nat.lt_succ_self _) (Nat.le_add_left _ k))

theorem pageMap_of_pmLoop {r : Reader} {mx : Nat} {res : PMState × Bool}
    (h : pmLoop (r.b.length + 1) r (frameOff r.ps r.frameN) mx {} = .ok res) :
    pageMap r mx = .ok (pmFinish r.ps res.1 res.2) := by
  unfold pageMap
  rw [show hdrSize + r.frameN * (fhSize + r.ps) = frameOff r.ps r.frameN from rfl, h]

theorem framesRead_readerAt (b : Bytes) (h : Hdr) (h8 : h.ps % 8 = 0) (k : Nat) (hk : k ≤ (lsPrefix h b).length) :
    framesRead (readerAt b h k) = (((lsPrefix h b).drop k).map (fun f => (f.pgno, f.commit)), .eof) :=
  readAll_readerAt b h h8 _ k hk (lsPrefix_length_lt_fuel h b k)

theorem pageMap_readerAt (b : Bytes) (h : Hdr) (h8 : h.ps % 8 = 0) (k : Nat) (hk : k ≤ (lsPrefix h b).length) (mx : Nat) :
    pageMap (readerAt b h k) mx = .ok (pmFinish h.ps
      (pmList h.ps (frameOff h.ps k) mx k ((lsPrefix h b).drop k) {}).1
      (pmList h.ps (frameOff h.ps k) mx k ((lsPrefix h b).drop k) {}).2) :=
  pageMap_of_pmLoop (pmLoop_readerAt b h h8 _ mx _ k {} hk (lsPrefix_length_lt_fuel h b k))

theorem newReader_ok (b : Bytes) (h : Hdr) (hh : parseHdr b = .ok h) : newReader b = .ok (readerAt b h 0) := by
  unfold newReader; rw [hh]; rfl

theorem newReaderAt_eq (b : Bytes) (h : Hdr) (hh : parseHdr b = .ok h) (off : Nat) (salt : Ck)
    (hoff : hdrSize < off) (hal : (off - hdrSize) % (h.ps + fhSize) = 0) :
    newReaderAt b off salt =
      match (rawFrames h.ps b)[(off - hdrSize) / (h.ps + fhSize) - 1]? with
      | some f => if f.salt = salt
          then .ok { b := b, be := h.be, ps := h.ps, salt := salt, ck := f.ck,
                     frameN := (off - hdrSize) / (h.ps + fhSize) - 1 + 1 }
          else .error .prevFrame
      | none => .error .prevFrame := by
  unfold newReaderAt readFrameCore
  rw [if_neg (Nat.not_le_of_lt hoff), hh]
  dsimp only
  rw [if_neg (not_not_intro hal), frameAt_eq]
  cases (rawFrames h.ps b)[(off - hdrSize) / (h.ps + fhSize) - 1]? with
  | none => rfl
  | some f => by_cases hs : f.salt = salt <;> simp [hs]

/-- Frame `k - 1` passed litestream's test, so its stored checksum, which `NewWALReaderWithOffset` takes over
    unverified, is the chain value after `k` frames. -/
theorem newReaderAt_ok (b : Bytes) (h : Hdr) (hh : parseHdr b = .ok h) (k : Nat) (hk0 : 0 < k)
    (hk : k ≤ (lsPrefix h b).length) : newReaderAt b (frameOff h.ps k) h.salt = .ok (readerAt b h k) := by
  have hpos : 0 < h.ps + fhSize := Nat.add_pos_right _ (by decide)
  obtain ⟨f, _, hget, hsalt, hck⟩ := lsPrefix_getElem? h b (Nat.sub_one_lt_of_le hk0 hk)
  rw [newReaderAt_eq b h hh _ _ (hdrSize_lt_frameOff h.ps hk0) (by rw [frameOff_sub_hdr, Nat.mul_mod_left]),
    frameOff_sub_hdr, Nat.mul_div_cancel _ hpos, hget]
  simp only [if_pos hsalt]
  rw [← hck, ← chainCk_succ h _ _ f hget, Nat.sub_add_cancel hk0]
  rfl

end Litestream.Wal
