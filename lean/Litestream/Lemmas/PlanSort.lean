import Litestream.Lemmas.Plan
import Litestream.Lemmas.V3Name
/-! The sorting client (`ltx.NewFileInfoSliceIterator`) yields well-formed listings. -/
namespace Litestream

theorem fileLe_iff {a b : FileInfo} : fileLe a b = true ↔
    a.level < b.level ∨ (a.level = b.level ∧ (a.min < b.min ∨ (a.min = b.min ∧ a.max ≤ b.max))) := by
  unfold fileLe
  split
  · simp only [decide_eq_true_eq]; omega
  · split
    · simp only [decide_eq_true_eq]; omega
    · simp only [decide_eq_true_eq]; omega

theorem fileLe_total (a b : FileInfo) : (fileLe a b || fileLe b a) = true := by
  rw [Bool.or_eq_true, fileLe_iff, fileLe_iff]; omega

theorem fileLe_trans (a b c : FileInfo) : fileLe a b = true → fileLe b c = true → fileLe a c = true := by
  rw [fileLe_iff, fileLe_iff, fileLe_iff]; omega

theorem sortFiles_eq_isort (fs : List FileInfo) : sortFiles fs = V3Name.isort fileLe fs := by
  have hins : ∀ f L, insertSorted f L = V3Name.ins fileLe f L := by
    intro f L
    induction L with
    | nil => rfl
    | cons g L ih => rw [insertSorted, V3Name.ins, ih]
  induction fs with
  | nil => rfl
  | cons f fs ih => rw [V3Name.isort, ← ih, ← hins]; rfl

theorem mem_sortFiles {x : FileInfo} {fs : List FileInfo} : x ∈ sortFiles fs ↔ x ∈ fs := by
  rw [sortFiles_eq_isort]; exact V3Name.mem_isort

theorem sortFiles_pairwise (fs : List FileInfo) : (sortFiles fs).Pairwise (fun a b => fileLe a b = true) := by
  rw [sortFiles_eq_isort]; exact V3Name.pairwise_isort fileLe fileLe_trans fileLe_total fs

theorem mem_listLevel {fs l f} : f ∈ listLevel fs l ↔ f ∈ fs ∧ f.level = l := by
  unfold listLevel
  rw [mem_sortFiles]; simp

def FilesWF (fs : List FileInfo) : Prop :=
  ∀ f ∈ fs, 1 ≤ f.min ∧ f.min ≤ f.max ∧ (f.level = snapshotLevel → f.min = 1)

theorem listLevel_pairwise (fs : List FileInfo) (l : Nat) :
    (listLevel fs l).Pairwise fun a b => a.min < b.min ∨ (a.min = b.min ∧ a.max ≤ b.max) := by
  refine List.Pairwise.imp_of_mem (fun {a b} ha hb hab => ?_) (sortFiles_pairwise _)
  have := (mem_listLevel.mp ha).2
  have := (mem_listLevel.mp hb).2
  have := fileLe_iff.mp hab
  omega

theorem listLevel_wf {fs} (h : FilesWF fs) : LevelsWF (listLevel fs) where
  pos := fun l f hf => have hf := h f (mem_listLevel.mp hf).1; ⟨hf.1, hf.2.1⟩
  snap := fun f hf => have ⟨h1, h2⟩ := mem_listLevel.mp hf; (h f h1).2.2 h2
  sortedMin := fun l _ => (listLevel_pairwise fs l).imp fun h => by omega
  sortedSnap := by
    refine List.Pairwise.imp_of_mem (fun {a b} ha hb hab => ?_) (listLevel_pairwise fs snapshotLevel)
    have ⟨ha1, ha2⟩ := mem_listLevel.mp ha
    have ⟨hb1, hb2⟩ := mem_listLevel.mp hb
    have := (h a ha1).2.2 ha2
    have := (h b hb1).2.2 hb2
    omega

/-- Files the planner can see: it lists levels 0 to `snapshotLevel` only. -/
def Vis (fs : List FileInfo) (f : FileInfo) : Prop := f ∈ fs ∧ f.level ≤ snapshotLevel

theorem inLevels_listLevel {fs f} : InLevels (listLevel fs) f ↔ Vis fs f := by
  simp only [InLevels, mem_listLevel, Vis]
  exact ⟨fun ⟨l, hl, hf, he⟩ => ⟨hf, he ▸ hl⟩, fun ⟨hf, hl⟩ => ⟨_, hl, hf, rfl⟩⟩

end Litestream
