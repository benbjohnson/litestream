/-! Facts about core `List` functions that several model layers need. Core Lean only. -/
namespace Litestream

theorem le_getLast {α : Type} {R : α → α → Prop} {L : List α} {s : α} (hp : L.Pairwise R)
    (h : L.getLast? = some s) : ∀ a ∈ L, a = s ∨ R a s := by
  obtain ⟨ys, rfl⟩ := List.getLast?_eq_some_iff.mp h
  intro a ha
  rcases List.mem_append.mp ha with ha | ha
  · exact Or.inr ((List.pairwise_append.mp hp).2.2 a ha s (by simp))
  · exact Or.inl (by simpa using ha)

theorem getLast?_filter_eq_some {α : Type} {p : α → Bool} {R : α → α → Prop} {l : List α} (hs : l.Pairwise R) {s : α}
    (h : (l.filter p).getLast? = some s) : s ∈ l ∧ p s = true ∧ ∀ a ∈ l, p a = true → a = s ∨ R a s :=
  have hm := List.mem_filter.1 (List.mem_of_getLast? h)
  ⟨hm.1, hm.2, fun a ha hpa => le_getLast (hs.filter p) h a (List.mem_filter.2 ⟨ha, hpa⟩)⟩

theorem foldl_sup_le_iff {α : Type} {g : α → Nat} {step : Nat → α → Nat}
    (hstep : ∀ m x B, step m x ≤ B ↔ m ≤ B ∧ g x ≤ B) (l : List α) (a B : Nat) :
    l.foldl step a ≤ B ↔ a ≤ B ∧ ∀ x ∈ l, g x ≤ B := by
  induction l generalizing a with
  | nil => simp
  | cons x l ih => rw [List.foldl_cons, ih, hstep, List.forall_mem_cons, and_assoc]

theorem foldl_pick {α : Type} {g : α → Nat} {step : Nat → α → Nat} (hstep : ∀ m x, step m x = m ∨ step m x = g x)
    (l : List α) (a : Nat) : l.foldl step a = a ∨ ∃ x ∈ l, l.foldl step a = g x := by
  induction l generalizing a with
  | nil => exact Or.inl rfl
  | cons x t ih =>
    rw [List.foldl_cons]
    rcases ih (step a x) with h | ⟨q, hq, h⟩
    · rcases hstep a x with e | e
      · exact Or.inl (h.trans e)
      · exact Or.inr ⟨x, List.mem_cons_self, h.trans e⟩
    · exact Or.inr ⟨q, List.mem_cons_of_mem _ hq, h⟩

theorem drop_eq_cons_of_getElem? {α : Type} {l : List α} {k : Nat} {a : α} (h : l[k]? = some a) :
    l.drop k = a :: l.drop (k + 1) := by
  obtain ⟨hlt, rfl⟩ := List.getElem?_eq_some_iff.mp h
  exact List.drop_eq_getElem_cons hlt

theorem take_drop_append {α : Type} (l : List α) {off m n : Nat} (h1 : off ≤ m) (h2 : m ≤ n) :
    (l.drop off).take (m - off) ++ (l.drop m).take (n - m) = (l.drop off).take (n - off) := by
  obtain ⟨a, rfl⟩ := Nat.exists_eq_add_of_le h1
  obtain ⟨b, rfl⟩ := Nat.exists_eq_add_of_le h2
  rw [show off + a - off = a by omega, show off + a + b - (off + a) = b by omega,
    show off + a + b - off = a + b by omega, List.take_add, List.drop_drop]

theorem exists_max {α : Type} (f : α → Nat) : ∀ (l : List α), l ≠ [] → ∃ x ∈ l, ∀ y ∈ l, f y ≤ f x
  | [], h => absurd rfl h
  | [a], _ => ⟨a, by simp⟩
  | a :: b :: l, _ => by
    obtain ⟨x, hx, hmax⟩ := exists_max f (b :: l) (by simp)
    by_cases h : f x ≤ f a
    · exact ⟨a, List.mem_cons_self, List.forall_mem_cons.mpr
        ⟨Nat.le_refl _, fun y hy => Nat.le_trans (hmax y hy) h⟩⟩
    · exact ⟨x, List.mem_cons_of_mem _ hx, List.forall_mem_cons.mpr ⟨by omega, hmax⟩⟩

end Litestream
