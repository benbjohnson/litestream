import Litestream.Model.Plan
import Litestream.Lemmas.List
/-! The planner's vocabulary (C08, reused by C05/C07/C15/C16): the comparator, chains of files, and
    what a well-formed set of listings is. Nothing here knows about cursors. Core Lean only. -/
namespace Litestream

theorem better_of_max_ne {c i : FileInfo} (h : i.max ≠ c.max) : better c i = decide (i.max > c.max) :=
  if_pos h

theorem better_true_max {c i : FileInfo} (h : better c i = true) : c.max ≤ i.max := by
  by_cases hm : i.max = c.max
  · omega
  · rw [better_of_max_ne hm] at h; exact Nat.le_of_lt (of_decide_eq_true h)

theorem better_false_max {c i : FileInfo} (h : better c i = false) : i.max ≤ c.max := by
  by_cases hm : i.max = c.max
  · omega
  · rw [better_of_max_ne hm] at h; exact Nat.le_of_not_lt (of_decide_eq_false h)

theorem elig_iff {tg : Target} {f : FileInfo} : elig tg f = true ↔
    (tg.txid = 0 ∨ f.max ≤ tg.txid) ∧ ∀ T, tg.ts = some T → f.created < T := by
  unfold elig
  cases tg.ts <;> simp

/-- The step of the "newest TXID" folds (`Follow.maxInfoTx` in Model/Follow.lean, `maxL1` in Model/Retention.lean)
    is a supremum; for `foldl_sup_le_iff`. -/
theorem fileMax_step_le_iff (m : Nat) (f : FileInfo) (B : Nat) :
    (if f.max > m then f.max else m) ≤ B ↔ m ≤ B ∧ f.max ≤ B := by split <;> omega

theorem chainFrom_nil (c : Nat) : chainFrom c [] = true := rfl

theorem chainEnd_nil (c : Nat) : chainEnd c [] = c := rfl

theorem chainEnd_cons (c : Nat) (f : FileInfo) (fs : List FileInfo) :
    chainEnd c (f :: fs) = chainEnd f.max fs := rfl

theorem chainFrom_cons {c : Nat} {f : FileInfo} {fs : List FileInfo} :
    chainFrom c (f :: fs) = true ↔ f.min ≤ c + 1 ∧ c < f.max ∧ chainFrom f.max fs = true := by
  simp [chainFrom, and_assoc]

theorem chainFrom_append : ∀ (a : List FileInfo) (c : Nat) (b : List FileInfo),
    chainFrom c (a ++ b) = (chainFrom c a && chainFrom (chainEnd c a) b)
  | [], _, _ => rfl
  | f :: fs, c, b => by
    simp only [List.cons_append, chainFrom, chainEnd_cons, chainFrom_append fs f.max b, Bool.and_assoc]

theorem chainEnd_append : ∀ (a : List FileInfo) (c : Nat) (b : List FileInfo),
    chainEnd c (a ++ b) = chainEnd (chainEnd c a) b
  | [], _, _ => rfl
  | f :: fs, _, b => chainEnd_append fs f.max b

theorem chainEnd_ge {q : List FileInfo} {c : Nat} (h : chainFrom c q = true) : c ≤ chainEnd c q :=
  match q, c, h with
  | [], c, _ => Nat.le_refl c
  | _ :: _, _, h =>
    have ⟨_, h2, h3⟩ := chainFrom_cons.mp h
    Nat.le_trans (Nat.le_of_lt h2) (chainEnd_ge h3)

theorem lastMax_eq_chainEnd (p : List FileInfo) : lastMax p = chainEnd 0 p := by
  rcases List.eq_nil_or_concat p with rfl | ⟨q, k, rfl⟩
  · rfl
  · rw [List.concat_eq_append, lastMax, List.getLast?_concat, chainEnd_append, chainEnd_cons, chainEnd_nil]

/-- `P` is a chain of files satisfying `S` that leads from TXID `c` to TXID `r`. -/
structure Chain (S : FileInfo → Prop) (c : Nat) (P : List FileInfo) (r : Nat) : Prop where
  chain : chainFrom c P = true
  reach : chainEnd c P = r
  files : ∀ f ∈ P, S f

namespace Chain
variable {S : FileInfo → Prop} {c r : Nat} {P : List FileInfo}

theorem nil : Chain S c [] c := ⟨rfl, rfl, nofun⟩

theorem nil_iff : Chain S c [] r ↔ c = r := ⟨fun h => h.reach, fun h => h ▸ nil⟩

theorem cons_iff {f : FileInfo} :
    Chain S c (f :: P) r ↔ S f ∧ f.min ≤ c + 1 ∧ c < f.max ∧ Chain S f.max P r := by
  constructor
  · intro h
    have ⟨h1, h2, h3⟩ := chainFrom_cons.mp h.chain
    have ⟨hf, hP⟩ := List.forall_mem_cons.mp h.files
    exact ⟨hf, h1, h2, h3, h.reach, hP⟩
  · intro ⟨hf, h1, h2, h⟩
    exact ⟨chainFrom_cons.mpr ⟨h1, h2, h.chain⟩, h.reach, List.forall_mem_cons.mpr ⟨hf, h.files⟩⟩

theorem append {Q : List FileInfo} {s : Nat} (h : Chain S c P r) (h' : Chain S r Q s) : Chain S c (P ++ Q) s where
  chain := by rw [chainFrom_append, h.chain, h.reach, h'.chain]; rfl
  reach := by rw [chainEnd_append, h.reach, h'.reach]
  files := List.forall_mem_append.mpr ⟨h.files, h'.files⟩

theorem snoc {k : FileInfo} (h : Chain S c P r) (hk : S k) (hmin : k.min ≤ r + 1) (hmax : r < k.max) :
    Chain S c (P ++ [k]) k.max :=
  h.append (cons_iff.mpr ⟨hk, hmin, hmax, nil⟩)

theorem mono {S' : FileInfo → Prop} (h : Chain S c P r) (hS : ∀ f, S f → S' f) : Chain S' c P r :=
  ⟨h.chain, h.reach, fun f hf => hS f (h.files f hf)⟩

theorem le (h : Chain S c P r) : c ≤ r := h.reach ▸ chainEnd_ge h.chain

theorem ne_nil_iff (h : Chain S c P r) : P ≠ [] ↔ c < r := by
  cases P with
  | nil => have := nil_iff.mp h; exact iff_of_false (· rfl) (by omega)
  | cons f P =>
    have ⟨_, _, h2, h3⟩ := cons_iff.mp h
    exact iff_of_true (List.cons_ne_nil _ _) (Nat.lt_of_lt_of_le h2 h3.le)

/-- L-greedy of DESIGN.md in closure form: a chain cannot leave a bound `B` that no file of `S` starting within
    it exceeds. -/
theorem le_of_closed {B : Nat} (hcl : ∀ f, S f → f.min ≤ B + 1 → f.max ≤ B) :
    ∀ {P : List FileInfo} {c : Nat}, Chain S c P r → c ≤ B → r ≤ B
  | [], _, h, hc => nil_iff.mp h ▸ hc
  | f :: _, _, h, hc =>
    have ⟨hf, h1, _, h3⟩ := cons_iff.mp h
    le_of_closed hcl h3 (hcl f hf (by omega))

theorem covers {n : Nat} : ∀ {P : List FileInfo} {c : Nat}, Chain S c P r → c < n → n ≤ r →
    ∃ f ∈ P, f.min ≤ n ∧ n ≤ f.max
  | [], _, h, h1, h2 => by have := nil_iff.mp h; omega
  | g :: _, _, h, h1, h2 =>
    have ⟨_, hmin, _, hgs⟩ := cons_iff.mp h
    if hn : n ≤ g.max then ⟨g, List.mem_cons_self, by omega, hn⟩
    else
      have ⟨f, hf, hh⟩ := covers hgs (by omega) h2
      ⟨f, List.mem_cons_of_mem _ hf, hh⟩

theorem extend (h : Chain S c P r) {m : Nat} (hm : r ≤ m)
    (hS : ∀ t, r < t → t ≤ m → ∃ f, S f ∧ f.min = t ∧ f.max = t) : ∃ Q, Chain S c Q m := by
  induction hm with
  | refl => exact ⟨P, h⟩
  | @step m hm ih =>
    obtain ⟨Q, hQ⟩ := ih fun t h1 h2 => hS t h1 (Nat.le_succ_of_le h2)
    obtain ⟨f, hf, hmin, hmax⟩ := hS _ (Nat.lt_succ_of_le hm) (Nat.le_refl _)
    rw [← hmax]
    exact ⟨Q ++ [f], hQ.snoc hf (Nat.le_of_eq hmin) (by omega)⟩

theorem snoc_max {k : FileInfo} (h : Chain S c P r) (hk : S k) (hmin : k.min ≤ r + 1) :
    ∃ Q, Chain S c Q (max r k.max) := by
  by_cases hlt : r < k.max
  · rw [Nat.max_eq_right (Nat.le_of_lt hlt)]; exact ⟨_, h.snoc hk hmin hlt⟩
  · rw [Nat.max_eq_left (Nat.le_of_not_lt hlt)]; exact ⟨P, h⟩

/-- Walking along `q` and appending to `A` each file that reaches beyond its end gives an `S`-chain
    that reaches as far as both; of `q` only the files beyond `A`'s end need satisfy `S`. -/
theorem transfer {q A : List FileInfo} {d e a : Nat} (hA : Chain S c A a)
    (hq : Chain (fun f => a < f.max → S f) d q e) (hd : d ≤ a) : ∃ B, Chain S c B (max a e) := by
  induction q generalizing d A a with
  | nil => exact ⟨A, by rw [← nil_iff.mp hq, Nat.max_eq_left hd]; exact hA⟩
  | cons g gs ih =>
    obtain ⟨hg, hmin, hmax, hgs⟩ := cons_iff.mp hq
    by_cases hle : g.max ≤ a
    · exact ih hA hgs hle
    · have hA' := hA.snoc (hg (Nat.lt_of_not_le hle)) (Nat.le_trans hmin (Nat.succ_le_succ hd)) (Nat.lt_of_not_le hle)
      obtain ⟨B, hB⟩ := ih hA' (hgs.mono fun f hf hlt => hf (by omega)) (Nat.le_refl _)
      have := hgs.le
      exact ⟨B, by rw [show max a e = max g.max e by omega]; exact hB⟩

end Chain

def SortedMin (L : List FileInfo) : Prop := L.Pairwise (fun a b => a.min ≤ b.min)

/-- Well-formed listings, as a sorting client over a real replica returns them. -/
structure LevelsWF (levels : Nat → List FileInfo) : Prop where
  pos : ∀ l f, f ∈ levels l → 1 ≤ f.min ∧ f.min ≤ f.max
  snap : ∀ f ∈ levels snapshotLevel, f.min = 1
  sortedMin : ∀ l, l < snapshotLevel → SortedMin (levels l)
  sortedSnap : (levels snapshotLevel).Pairwise (fun a b => a.max ≤ b.max)

def InLevels (levels : Nat → List FileInfo) (f : FileInfo) : Prop := ∃ l, l ≤ snapshotLevel ∧ f ∈ levels l

/-- The files a plan for `tg` may consist of (`C08.ValidChain.files`). -/
abbrev Usable (levels : Nat → List FileInfo) (tg : Target) (f : FileInfo) : Prop := InLevels levels f ∧ elig tg f = true

end Litestream
