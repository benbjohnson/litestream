import Litestream.Model.Follow
import Litestream.Lemmas.PlanSort
/-! The files a poll applies form a chain of listed files (no gap is ever skipped), and the chain
    never leads beyond the newest listed TXID. Core only. -/
namespace Litestream.Follow
open Litestream

theorem chainEnd_append (a b : List FileInfo) : ∀ c, chainEnd c (a ++ b) = chainEnd (chainEnd c a) b :=
  fun c => Litestream.chainEnd_append a c b

theorem chainEnd_ge (q : List FileInfo) : ∀ c, chainFrom c q = true → c ≤ chainEnd c q :=
  fun _ => Litestream.chainEnd_ge

theorem scanGap_chain (g : Nat) (L : List FileInfo) (cur : Nat) :
    Chain (· ∈ L) cur (scanGap g L cur) (chainEnd cur (scanGap g L cur)) := by
  fun_induction scanGap g L cur with
  | case1 => exact .nil
  | case2 => exact .nil  -- gap at this level: break
  | case3 f rest cur _ _ ih => exact ih.mono fun _ => List.mem_cons_of_mem f  -- already covered: skip
  | case4 f rest cur h1 h2 =>  -- applied, gap bridged: stop
    exact Chain.cons_iff.mpr ⟨List.mem_cons_self, Nat.le_of_not_gt h1, Nat.lt_of_not_le h2, .nil⟩
  | case5 f rest cur h1 h2 _ ih =>  -- applied, go on
    exact Chain.cons_iff.mpr ⟨List.mem_cons_self, Nat.le_of_not_gt h1, Nat.lt_of_not_le h2,
      ih.mono fun _ => List.mem_cons_of_mem f⟩

theorem fillGap_chain (fs : List FileInfo) (after g : Nat) (ls : List Nat) :
    Chain (· ∈ fs) after (fillGap fs after g ls) (chainEnd after (fillGap fs after g ls)) := by
  fun_induction fillGap fs after g ls with
  | case1 => exact .nil
  | case2 l =>  -- level `l` made progress
    exact (scanGap_chain g (listLevel fs l) after).mono (fun x hx => (mem_listLevel.mp hx).1)
  | case3 _ _ _ _ ih => exact ih  -- next level

theorem l0Loop_chain (fs : List FileInfo) : ∀ (L : List FileInfo) (cur : Nat), (∀ x ∈ L, x ∈ fs) →
    Chain (· ∈ fs) cur (l0Loop fs L cur) (chainEnd cur (l0Loop fs L cur))
  | [], _, _ => .nil
  | info :: rest, cur, hL => by
    have ih := fun c => l0Loop_chain fs rest c (fun x hx => hL x (List.mem_cons_of_mem _ hx))
    have hinfo : info ∈ fs := hL info (List.mem_cons_self ..)
    unfold l0Loop
    split
    · -- a gap before `info`: what `fillGap` found comes first, then the loop goes on from its end
      rw [Litestream.chainEnd_append]
      refine (fillGap_chain fs cur info.min gapLevels).append ?_
      split
      · exact ih _
      next h2 =>
        split
        · exact .nil
        next h3 => exact Chain.cons_iff.mpr ⟨hinfo, Nat.le_of_not_gt h3, Nat.lt_of_not_le h2, ih _⟩
    next h1 =>
      split
      · exact ih _
      next h2 => exact Chain.cons_iff.mpr ⟨hinfo, Nat.le_of_not_gt h1, Nat.lt_of_not_le h2, ih _⟩

theorem chain_pollPlan (fs : List FileInfo) (after : Nat) :
    Chain (· ∈ fs) after (pollPlan fs after) (pollTxid fs after) := by
  unfold pollTxid pollPlan
  simp only
  split
  · exact fillGap_chain fs after (after + 1) gapLevels
  · exact l0Loop_chain fs _ after (fun x hx => (mem_listLevel.mp (List.mem_filter.mp hx).1).1)

/-- `chain_pollPlan` without `Chain`. -/
theorem pollPlan_chain (fs : List FileInfo) (after : Nat) :
    chainFrom after (pollPlan fs after) = true ∧ ∀ x ∈ pollPlan fs after, x ∈ fs :=
  have h := chain_pollPlan fs after
  ⟨h.chain, h.files⟩

theorem maxInfoTx_le_iff {fs : List FileInfo} {B : Nat} : maxInfoTx fs ≤ B ↔ ∀ f ∈ fs, f.max ≤ B := by
  simp [maxInfoTx, foldl_sup_le_iff fileMax_step_le_iff]

theorem mem_le_maxInfoTx {fs : List FileInfo} {f : FileInfo} (hf : f ∈ fs) : f.max ≤ maxInfoTx fs :=
  maxInfoTx_le_iff.mp (Nat.le_refl _) f hf

theorem le_pollTxid (fs : List FileInfo) (c : Nat) : c ≤ pollTxid fs c :=
  (chain_pollPlan fs c).le

theorem pollTxid_le_max (fs : List FileInfo) (c : Nat) (hc : c ≤ maxInfoTx fs) : pollTxid fs c ≤ maxInfoTx fs :=
  (chain_pollPlan fs c).le_of_closed (fun _ hf _ => mem_le_maxInfoTx hf) hc

end Litestream.Follow
