import Litestream.Model.Lease
/-! The inductive invariant of the lease protocol (`Model/Lease.lean`), its preservation by every step
(`inv_step`, under the side condition `FreshStep`), and what it says of each conditional request. For C20. -/
namespace Litestream.Lease

structure Inv (s : State) : Prop where
  lease_wf : ∀ c l, (s.clients c).lease = some l → l.etag = etagOf l.body ∧ l.body.owner = s.label c
  -- what mutual exclusion rests on
  lease_live : ∀ c l, (s.clients c).lease = some l → (s.clients c).active = true →
      s.store = some l.body ∨ l.body.exp < s.now
  /-- needs `FreshStep` -/
  lease_unique : ∀ c d lc ld, c ≠ d → (s.clients c).lease = some lc → (s.clients d).lease = some ld →
      lc.body ≠ ld.body
  pc_put : ∀ c new cond, (s.clients c).pc = .put new cond → new.owner = s.label c ∧
      match cond with
      | .ifNoneMatchStar => new.gen = 1
      | .ifMatch e => ∃ r, e = etagOf r ∧ r.exp < s.now ∧ new.gen = r.gen + 1
  pc_got : ∀ c r e, (s.clients c).pc = .got (some (r, e)) → e = etagOf r
  hist_store : s.store = match s.hist with | .wrote _ r :: _ => some r | _ => none
  hist_writer : ∀ w r rest, s.hist = .wrote (some w) r :: rest → (s.clients w).lease = some ⟨r, etagOf r⟩
  hist_gen : genPartial s.hist = true

theorem inv_init (store : Option Rec) (label : Nat → Nat) : Inv (initState store label) := by
  constructor
  case hist_store => cases store <;> rfl
  case hist_writer => intro w r rest h; cases store <;> simp [initState] at h
  case hist_gen => cases store <;> rfl
  all_goals intros; simp_all [initState, idleClient]

@[simp] theorem setClient_same (s : State) (c : Nat) (cl : Client) : (s.setClient c cl).clients c = cl := by
  simp [State.setClient]

theorem setClient_other {s : State} {c d : Nat} {cl : Client} (h : d ≠ c) :
    (s.setClient c cl).clients d = s.clients d := by
  simp [State.setClient, h]

@[simp] theorem setClient_now (s : State) (c : Nat) (cl : Client) : (s.setClient c cl).now = s.now := rfl
@[simp] theorem setClient_store (s : State) (c : Nat) (cl : Client) : (s.setClient c cl).store = s.store := rfl
@[simp] theorem setClient_hist (s : State) (c : Nat) (cl : Client) : (s.setClient c cl).hist = s.hist := rfl
@[simp] theorem setClient_label (s : State) (c : Nat) (cl : Client) : (s.setClient c cl).label = s.label := rfl

theorem s3Put_ifNoneMatch_ok (store : Option Rec) (new : Rec) (m : Missing) :
    (s3Put store .ifNoneMatchStar new m).1 = .ok ↔ store = none := by
  cases store <;> simp [s3Put]

theorem s3Put_ifMatch_ok (store : Option Rec) (r new : Rec) (m : Missing) :
    (s3Put store (.ifMatch (etagOf r)) new m).1 = .ok ↔ store = some r := by
  cases store with
  | none => cases m <;> simp [s3Put, missingResp]
  | some cur =>
    simp only [s3Put, Option.some.injEq]
    split
    next h => simpa using etagOf_injective h
    next h => simpa using fun e => h (congrArg etagOf e)

theorem s3Put_snd (store : Option Rec) (cond : Cond) (new : Rec) (m : Missing) :
    (s3Put store cond new m).2 = if (s3Put store cond new m).1 = .ok then some new else store := by
  cases cond <;> cases store <;> simp only [s3Put]
  · rfl
  · rfl
  · cases m <;> rfl
  · split <;> rfl

theorem s3Put_fail_store (store : Option Rec) (cond : Cond) (new : Rec) (m : Missing)
    (h : (s3Put store cond new m).1 ≠ .ok) : (s3Put store cond new m).2 = store := by
  rw [s3Put_snd, if_neg h]

theorem s3Put_notFound (store : Option Rec) (cond : Cond) (new : Rec) (m : Missing)
    (h : (s3Put store cond new m).1 = .notFound) : store = none := by
  cases cond <;> cases store <;> simp only [s3Put] at h ⊢
  · cases h
  · split at h <;> cases h

/-- So that `s3Put_ifMatch_ok` and `s3Put_notFound` speak of `s3Delete` too (`new` is arbitrary). -/
theorem s3Delete_resp (store : Option Rec) (e : ETag) (new : Rec) (m : Missing) :
    (s3Delete store e m).1 = (s3Put store (.ifMatch e) new m).1 := by
  cases store with
  | none => rfl
  | some cur => simp only [s3Delete, s3Put]; split <;> rfl

theorem s3Delete_snd (store : Option Rec) (e : ETag) (m : Missing) :
    (s3Delete store e m).2 = if (s3Delete store e m).1 = .ok then none else store := by
  cases store <;> simp only [s3Delete]
  · cases m <;> rfl
  · split <;> rfl

theorem writeLeaseOutcome_ok {r : Resp} : writeLeaseOutcome r = .ok ↔ r = .ok := by
  cases r <;> simp [writeLeaseOutcome]

theorem renewResult_fail {new : Rec} {r : Resp} (h : r ≠ .ok) :
    (renewResult new r = .notHeld ∨ renewResult new r = .otherErr) ∧
      (r ≠ .notFound → renewResult new r = .notHeld) := by
  cases r <;> simp_all [renewResult]

theorem releaseResult_fail {r : Resp} (h : r ≠ .ok) :
    (releaseResult r = .notHeld ∨ releaseResult r = .alreadyReleased) ∧
      (r ≠ .notFound → releaseResult r = .notHeld) := by
  cases r <;> simp_all [releaseResult]

theorem dominates_iff (w2 : Option Nat) (r2 : Rec) (older : List (Option Nat × Rec)) :
    dominates w2 r2 older = true ↔
      ∀ p ∈ older, p.2.gen ≤ r2.gen ∧ (p.1 = w2 ∨ p.1 = none ∨ p.2.gen < r2.gen) := by
  simp [dominates, or_assoc]

/-- `r2` replaces `r`. A takeover (generation + 1) puts `r2` strictly above everything `r` dominated. A renewal
has the generation of `r` and a writer `w2` with `w = w2` or `w` unknown, so whatever was the same writer as
`w`, unknown, or strictly below `r` is so against `(w2, r2)`. -/
theorem dominates_cons {w2 w : Option Nat} {r2 r : Rec} {older : List (Option Nat × Rec)}
    (hrel : r2.gen = r.gen + 1 ∨ ((w = w2 ∨ w = none) ∧ r2.gen = r.gen))
    (hd : dominates w r older = true) : dominates w2 r2 ((w, r) :: older) = true := by
  rw [dominates_iff] at hd ⊢
  grind

theorem genPartial_push {hist : List Ev} {c : Nat} {new : Rec} (h : genPartial hist = true)
    (hrel : ∀ w r rest, hist = .wrote w r :: rest →
      new.gen = r.gen + 1 ∨ ((w = some c ∨ w = none) ∧ new.gen = r.gen)) :
    genPartial (.wrote (some c) new :: hist) = true := by
  match hist, h, hrel with
  | [], _, _ => rfl
  | .deleted :: rest, h, _ => simpa [genPartial, dominates, segHead] using h
  | .wrote w r :: rest, h, hrel =>
    simp only [genPartial, Bool.and_eq_true] at h ⊢
    exact ⟨dominates_cons (hrel w r rest rfl) h.1, h⟩

theorem segHead_map_append (mid : List (Option Nat × Rec)) (rest : List Ev) :
    segHead (mid.map (fun p => .wrote p.1 p.2) ++ rest) = mid ++ segHead rest := by
  induction mid with
  | nil => rfl
  | cons r mid ih => simp [segHead, ih]

theorem genPartial_suffix (pre rest : List Ev) (h : genPartial (pre ++ rest) = true) : genPartial rest = true := by
  induction pre with
  | nil => exact h
  | cons e pre ih =>
    cases e with
    | wrote w r => simp only [List.cons_append, genPartial, Bool.and_eq_true] at h; exact ih h.2
    | deleted => exact ih h

/-- Two writes of one release-free stretch (newest first: `(w2, r2)`, the writes `mid`, `(w1, r1)`). -/
theorem genPartial_ordered {pre post : List Ev} {w1 w2 : Option Nat} {r1 r2 : Rec} {mid : List (Option Nat × Rec)}
    (h : genPartial (pre ++ .wrote w2 r2 :: (mid.map (fun p => .wrote p.1 p.2) ++ .wrote w1 r1 :: post)) = true) :
    r1.gen ≤ r2.gen ∧ (w1 = w2 ∨ w1 = none ∨ r1.gen < r2.gen) := by
  have hg := genPartial_suffix _ _ h
  simp only [genPartial, Bool.and_eq_true, segHead_map_append, dominates_iff] at hg
  exact hg.1 (w1, r1) (by simp [segHead])

/-- What the `pc` of client `c` records of an acquire in flight: clauses `pc_put` and `pc_got` of `Inv`. -/
def PcOK (s : State) (c : Nat) : Pc → Prop
  | .put new cond => new.owner = s.label c ∧
      match cond with
      | .ifNoneMatchStar => new.gen = 1
      | .ifMatch e => ∃ r, e = etagOf r ∧ r.exp < s.now ∧ new.gen = r.gen + 1
  | .got (some (r, e)) => e = etagOf r
  | _ => True

theorem Inv.pcOK {s : State} (h : Inv s) (c : Nat) : PcOK s c (s.clients c).pc := by
  unfold PcOK
  split
  next hp => exact h.pc_put c _ _ hp
  next hp => exact h.pc_got c _ _ hp
  · trivial

theorem pcOK_get (s : State) (c : Nat) : PcOK s c (.got (s3Get s.store)) := by
  cases s.store <;> simp [s3Get, PcOK]

theorem pcOK_decide {s : State} {c : Nat} {ttl : Int} {existing : Option (Rec × ETag)} {new : Rec} {cond : Cond}
    (hgot : PcOK s c (.got existing)) (hdec : acquireDecide s.now ttl (s.label c) existing = .inr (new, cond)) :
    PcOK s c (.put new cond) := by
  unfold acquireDecide at hdec
  split at hdec
  next r e =>
    split at hdec
    · cases hdec
    next hexp => cases hdec; exact ⟨rfl, r, hgot, by simpa [isExpired] using hexp, rfl⟩
  · cases hdec; exact ⟨rfl, rfl⟩

/-- Every request-level step changes one client `c` and, when its write or delete goes through,
store and history with it: the clauses about one client are asked of the new record of `c`. The
others keep `lease_live` because of `hover`: the store changes only over a record that has expired or
that `c` has in hand, and no other instance has that one in hand (`lease_unique`). -/
theorem Inv.update {s : State} (h : Inv s) (c : Nat) {cl : Client} {store : Option Rec} {hist : List Ev}
    (hover : ∀ r, s.store = some r →
      store = some r ∨ r.exp < s.now ∨ ∃ lc, (s.clients c).lease = some lc ∧ lc.body = r)
    (hwf : ∀ l, cl.lease = some l → l.etag = etagOf l.body ∧ l.body.owner = s.label c)
    (hlive : ∀ l, cl.lease = some l → cl.active = true → store = some l.body ∨ l.body.exp < s.now)
    (huniq : ∀ d l ld, c ≠ d → cl.lease = some l → (s.clients d).lease = some ld → l.body ≠ ld.body)
    (hpc : PcOK s c cl.pc)
    (hstore : store = match hist with | .wrote _ r :: _ => some r | _ => none)
    (hwriter : ∀ w r rest, hist = .wrote (some w) r :: rest →
      ((s.setClient c cl).clients w).lease = some ⟨r, etagOf r⟩)
    (hgen : genPartial hist = true) :
    Inv ({ s with store := store, hist := hist }.setClient c cl) := by
  constructor
  · intro d l hl
    by_cases hd : d = c
    · subst hd; rw [setClient_same] at hl; exact hwf l hl
    · rw [setClient_other hd] at hl; exact h.lease_wf d l hl
  · intro d l hl ha
    by_cases hd : d = c
    · subst hd; rw [setClient_same] at hl ha; exact hlive l hl ha
    · rw [setClient_other hd] at hl ha
      rcases h.lease_live d l hl ha with hs | hexp
      · rcases hover _ hs with hs' | hexp | ⟨lc, hlc, hb⟩
        · exact .inl hs'
        · exact .inr hexp
        · exact absurd hb (h.lease_unique c d lc l (Ne.symm hd) hlc hl)
      · exact .inr hexp
  · intro a b la lb hab hla hlb
    by_cases ha : a = c
    · subst ha
      rw [setClient_same] at hla; rw [setClient_other (Ne.symm hab)] at hlb
      exact huniq b la lb hab hla hlb
    · rw [setClient_other ha] at hla
      by_cases hb : b = c
      · subst hb; rw [setClient_same] at hlb; exact (huniq a lb la (Ne.symm ha) hlb hla).symm
      · rw [setClient_other hb] at hlb; exact h.lease_unique a b la lb hab hla hlb
  · intro d new cond hp
    by_cases hd : d = c
    · subst hd; rw [setClient_same] at hp; rw [hp] at hpc; exact hpc
    · rw [setClient_other hd] at hp; exact h.pc_put d new cond hp
  · intro d r e hp
    by_cases hd : d = c
    · subst hd; rw [setClient_same] at hp; rw [hp] at hpc; exact hpc
    · rw [setClient_other hd] at hp; exact h.pc_got d r e hp
  · exact hstore
  · exact hwriter
  · exact hgen

theorem inv_tick {s : State} (h : Inv s) (d : Nat) : Inv { s with now := s.now + d } := by
  have hnow : ∀ x : Int, x < s.now → x < s.now + d := fun x hx => by omega
  refine { h with lease_live := fun c l hl ha => (h.lease_live c l hl ha).imp_right (hnow _),
                  pc_put := fun c new cond hp => ⟨(h.pc_put c new cond hp).1, ?_⟩ }
  have := (h.pc_put c new cond hp).2
  cases cond with
  | ifNoneMatchStar => exact this
  | ifMatch e =>
    obtain ⟨r, h1, h2, h3⟩ := this
    exact ⟨r, h1, hnow _ h2, h3⟩

theorem inv_setPc {s : State} {c : Nat} {pc : Pc} (h : Inv s) (hpc : PcOK s c pc) :
    Inv (s.setClient c { s.clients c with pc := pc }) := by
  refine h.update c (fun _ hr => .inl hr) (h.lease_wf c) (h.lease_live c)
    (h.lease_unique c) hpc h.hist_store ?writer h.hist_gen
  intro w r rest hh
  by_cases hw : w = c
  · subst hw; simpa using h.hist_writer w r rest hh
  · rw [setClient_other hw]; exact h.hist_writer w r rest hh

/-- `hst`: first arm an acquire, second a renewal. -/
theorem inv_write {s : State} {c : Nat} {new : Rec} (h : Inv s) (hown : new.owner = s.label c)
    (hfresh : ∀ d, d ≠ c → ∀ ld, (s.clients d).lease = some ld → ld.body ≠ new)
    (hst : ∀ r, s.store = some r → (r.exp < s.now ∧ new.gen = r.gen + 1) ∨
        (∃ lc, (s.clients c).lease = some lc ∧ lc.body = r ∧ new.gen = r.gen)) :
    Inv ({ s with store := some new, hist := .wrote (some c) new :: s.hist }.setClient c
          { lease := some ⟨new, etagOf new⟩, active := true, pc := .idle }) := by
  refine h.update c ?over ?wf (fun _ hl _ => .inl (by cases hl; rfl)) ?uniq trivial rfl ?writer ?gen
  case over => exact fun r hr => .inr ((hst r hr).imp (·.1) fun ⟨lc, hlc, hb, _⟩ => ⟨lc, hlc, hb⟩)
  case wf => intro l hl; cases hl; exact ⟨rfl, hown⟩
  case uniq => intro d l ld hd hl hld; cases hl; exact (hfresh d (Ne.symm hd) ld hld).symm
  case writer => intro w r rest hh; cases hh; simp
  case gen =>
    refine genPartial_push h.hist_gen fun w r rest hr => ?_
    have hs : s.store = some r := by rw [h.hist_store, hr]
    refine (hst r hs).imp (·.2) fun ⟨lc, hlc, hb, hg⟩ => ⟨?_, hg⟩
    -- the writer of the stored record is the only instance that has it in hand
    cases w with
    | none => exact .inr rfl
    | some w =>
      by_cases hw : w = c
      · exact .inl (congrArg some hw)
      · exact absurd hb.symm (h.lease_unique w c _ lc hw (h.hist_writer w r rest hr) hlc)

theorem inv_delete {s : State} {c : Nat} {l : Lease} (h : Inv s) (hl : (s.clients c).lease = some l)
    (hst : s.store = some l.body) :
    Inv ({ s with store := none, hist := .deleted :: s.hist }.setClient c
          { s.clients c with active := false }) := by
  exact h.update c (fun r hr => .inr (.inr ⟨l, hl, Option.some.inj (hst.symm.trans hr)⟩)) (h.lease_wf c)
    (hlive := nofun) (h.lease_unique c) (h.pcOK c) (hstore := rfl) (hwriter := nofun) h.hist_gen

/-- Side condition of a step: the record an instance is about to write successfully is not
byte-identical to a lease record another instance has in hand. With an ETag that is a content hash
this is what makes a stale lease object useless to its owner; it holds whenever owner strings are
distinct (`freshStep_of_injective`), and with shared owner strings as long as the (nanosecond)
`ExpiresAt` of different instances' writes of the same generation never coincide. -/
def FreshStep (s : State) : Label → Prop
  | .acquirePut c m =>
    ∀ new cond, (s.clients c).pc = .put new cond → (s3Put s.store cond new m).1 = .ok →
      ∀ d, d ≠ c → ∀ ld, (s.clients d).lease = some ld → ld.body ≠ new
  | .renew c ttl m =>
    ∀ l, (s.clients c).lease = some l →
      (s3Put s.store (writeLeaseCond (some l.etag)) ⟨l.body.gen, s.now + ttl, s.label c⟩ m).1 = .ok →
      ∀ d, d ≠ c → ∀ ld, (s.clients d).lease = some ld → ld.body ≠ ⟨l.body.gen, s.now + ttl, s.label c⟩
  | _ => True

def FreshRun (s : State) : List Label → Prop
  | [] => True
  | l :: ls => FreshStep s l ∧ FreshRun (step s l).1 ls

theorem Inv.acquirePut_ok {s : State} (h : Inv s) {c : Nat} {new : Rec} {cond : Cond} {m : Missing}
    (hpc : (s.clients c).pc = .put new cond) (hok : (s3Put s.store cond new m).1 = .ok) :
    ∀ r, s.store = some r → r.exp < s.now ∧ new.gen = r.gen + 1 := by
  intro r hr
  have hp := (h.pc_put c new cond hpc).2
  cases cond with
  | ifNoneMatchStar => cases ((s3Put_ifNoneMatch_ok ..).1 hok).symm.trans hr
  | ifMatch e =>
    obtain ⟨r', rfl, hexp, hg⟩ := hp
    cases ((s3Put_ifMatch_ok ..).1 hok).symm.trans hr
    exact ⟨hexp, hg⟩

theorem Inv.renew_ok_iff {s : State} (h : Inv s) {c : Nat} {l : Lease} (hl : (s.clients c).lease = some l)
    (new : Rec) (m : Missing) :
    (s3Put s.store (writeLeaseCond (some l.etag)) new m).1 = .ok ↔ s.store = some l.body := by
  rw [(h.lease_wf c l hl).1]; exact s3Put_ifMatch_ok ..

theorem Inv.release_ok_iff {s : State} (h : Inv s) {c : Nat} {l : Lease} (hl : (s.clients c).lease = some l)
    (m : Missing) : (s3Delete s.store l.etag m).1 = .ok ↔ s.store = some l.body :=
  s3Delete_resp _ _ l.body m ▸ h.renew_ok_iff hl l.body m

theorem inv_step (s : State) (lab : Label) (h : Inv s) (hf : FreshStep s lab) : Inv (step s lab).1 := by
  cases lab <;> dsimp only [step, stepAcquireGet, stepAcquireDecide, stepAcquirePut, stepAcquireReread,
    stepRenew, stepRelease]
  case tick d => exact inv_tick h d
  case acquireGet c =>
    split
    · exact inv_setPc h (pcOK_get s c)
    · exact h
  case acquireDecide c ttl =>
    split
    next existing hpc =>
      split
      · exact inv_setPc h trivial  -- refused: back to idle
      next hdec => exact inv_setPc h (pcOK_decide (hpc ▸ h.pcOK c) hdec)
    · exact h
  case acquirePut c m =>
    split
    next new cond hpc =>
      split
      next hout =>  -- the write went through
        have hok := writeLeaseOutcome_ok.1 hout
        rw [s3Put_snd, if_pos hok]
        exact inv_write h (h.pc_put c new cond hpc).1 (hf new cond hpc hok)
          fun r hr => .inl (h.acquirePut_ok hpc hok r hr)
      · exact inv_setPc h trivial  -- 412: on to the re-read
      · exact inv_setPc h trivial  -- other error: back to idle
    · exact h
  case acquireReread c =>
    split
    · exact inv_setPc h trivial
    · exact h
  case renew c ttl m =>
    split
    · split
      · exact h  -- no lease in hand
      next l hl =>
        split
        next hok =>  -- the write went through: the stored record was `l.body`
          rw [s3Put_snd, if_pos hok]
          refine inv_write h rfl (hf l hl hok) fun r hr => .inr ⟨l, hl, ?_⟩
          cases ((h.renew_ok_iff hl _ m).1 hok).symm.trans hr
          exact ⟨rfl, rfl⟩
        · exact h  -- refused: nothing changes
    · exact h
  case release c m =>
    split
    · split
      · exact h  -- no lease in hand
      next l hl =>
        split
        next hok =>  -- the delete went through
          rw [s3Delete_snd, if_pos hok]
          exact inv_delete h hl ((h.release_ok_iff hl m).1 hok)
        · exact h  -- refused: nothing changes
    · exact h

theorem inv_run (s : State) (ls : List Label) (h : Inv s) (hf : FreshRun s ls) : Inv (run s ls) := by
  induction ls generalizing s with
  | nil => exact h
  | cons l ls ih => exact ih _ (inv_step s l h hf.1) hf.2

theorem step_label (s : State) (lab : Label) : (step s lab).1.label = s.label := by
  cases lab <;> dsimp only [step, stepAcquireGet, stepAcquireDecide, stepAcquirePut, stepAcquireReread,
    stepRenew, stepRelease]
  all_goals (repeat' split)
  all_goals rfl

/-- A record carrying `c`'s owner string is in no other instance's hand. -/
theorem freshStep_of_injective (s : State) (lab : Label) (h : Inv s)
    (hinj : ∀ a b, s.label a = s.label b → a = b) : FreshStep s lab := by
  cases lab with
  | acquirePut c m =>
    intro new cond hpc _ d hd ld hld hb
    exact hd (hinj d c (by rw [← (h.lease_wf d ld hld).2, hb, (h.pc_put c new cond hpc).1]))
  | renew c ttl m =>
    intro l _ _ d hd ld hld hb
    exact hd (hinj d c (by rw [← (h.lease_wf d ld hld).2, hb]))
  | _ => trivial

theorem freshRun_of_injective (s : State) (ls : List Label) (h : Inv s)
    (hinj : ∀ a b, s.label a = s.label b → a = b) : FreshRun s ls := by
  induction ls generalizing s with
  | nil => trivial
  | cons l ls ih =>
    have hf := freshStep_of_injective s l h hinj
    exact ⟨hf, ih _ (inv_step s l h hf) (by rw [step_label]; exact hinj)⟩

theorem run_append (s : State) (xs ys : List Label) : run s (xs ++ ys) = run (run s xs) ys := by
  induction xs generalizing s with
  | nil => rfl
  | cons x xs ih => exact ih _

theorem freshRun_append (s : State) (xs ys : List Label) :
    FreshRun s (xs ++ ys) ↔ FreshRun s xs ∧ FreshRun (run s xs) ys := by
  induction xs generalizing s with
  | nil => simp [FreshRun, run]
  | cons x xs ih => simp only [List.cons_append, FreshRun, run, ih, and_assoc]

end Litestream.Lease
