import Litestream.Model.LockProtocols
import Litestream.Lemmas.Locks
/-! Invariants of the protocol models of C12: double-checked registration (`Register.inv_reach`) and the snapshot
    position hand-off (`atomicRuns_init`). -/
namespace Litestream.Locks.Register

structure Inv (k : Nat) (s : St) : Prop where
  holder : ∀ i, (s.pc i = .s1 ∨ s.pc i = .s4) ↔ s.mu = some i
  atMost : s.dbs.length ≤ 1
  reg    : ∀ i, i ∈ s.dbs ↔ s.pc i = .dReg
  -- a call leaves by a duplicate exit only after it saw a registered instance, and `dbs` never shrinks
  seen   : ∀ i, (s.pc i = .dEarly ∨ s.pc i = .s5 ∨ s.pc i = .dDup) → s.dbs ≠ []
  bound  : ∀ i, k ≤ i → s.pc i = .s0

theorem inv_init (k : Nat) : Inv k init := by
  constructor <;> simp [init]

theorem upd_same (f : Nat → PC) (i : Nat) (v : PC) : upd f i v i = v := by simp [upd]
theorem upd_other {f : Nat → PC} {i j : Nat} {v : PC} (h : j ≠ i) : upd f i v j = f j := by simp [upd, h]

/-- The frame of every transition but `append`. -/
theorem Inv.move {k : Nat} {s : St} (hi : Inv k s) {i : Nat} (hik : i < k) {v : PC} {m : Option Nat}
    (holder : (v = .s1 ∨ v = .s4) ↔ m = some i) (others : ∀ j, j ≠ i → (m = some j ↔ s.mu = some j))
    (old : s.pc i ≠ .dReg) (new : v ≠ .dReg) (seen : (v = .dEarly ∨ v = .s5 ∨ v = .dDup) → s.dbs ≠ []) :
    Inv k { s with mu := m, pc := upd s.pc i v } := by
  refine ⟨fun j => ?_, hi.atMost, fun j => ?_, fun j => ?_, fun j hj => ?_⟩ <;> by_cases hji : j = i
  · simp only [hji, upd_same]; exact holder
  · simp only [upd_other hji, others j hji]; exact hi.holder j
  · simp [hji, upd_same, hi.reg, old, new]
  · simp only [upd_other hji]; exact hi.reg j
  · simp only [hji, upd_same]; exact seen
  · simp only [upd_other hji]; exact hi.seen j
  · omega
  · simp only [upd_other hji]; exact hi.bound j hj

theorem inv_step {k : Nat} {s s' : St} (hi : Inv k s) (hs : Step true k s s') : Inv k s' := by
  -- whoever is at `s1`/`s4` holds the mutex, so nobody else does
  have unlock : ∀ {i}, (s.pc i = .s1 ∨ s.pc i = .s4) → ∀ j, j ≠ i → ((none : Option Nat) = some j ↔ s.mu = some j) :=
    fun h j hj => by simp [(hi.holder _).mp h, Ne.symm hj]
  have lock : ∀ {i : Nat}, s.mu = none → ∀ j, j ≠ i → (some i = some j ↔ s.mu = some j) :=
    fun h j hj => by simp [h, Ne.symm hj]
  cases hs with
  | @lock1 i hik hpc hmu | @lock2 i hik hpc hmu =>
    exact hi.move hik (holder := by simp) (others := lock hmu) (old := by simp [hpc]) (new := by simp) (seen := by simp)
  | @found1 i hik hpc hne =>
    exact hi.move hik (holder := by simp) (others := unlock (.inl hpc)) (old := by simp [hpc]) (new := by simp)
      (seen := fun _ => hne)
  | @none1 i hik hpc hnil =>
    exact hi.move hik (holder := by simp) (others := unlock (.inl hpc)) (old := by simp [hpc]) (new := by simp)
      (seen := by simp)
  | @open_ i hik hpc =>
    exact hi.move hik (holder := by simp [← hi.holder, hpc]) (others := fun _ _ => .rfl) (old := by simp [hpc])
      (new := by simp) (seen := by simp)
  | @found2 i hik hpc _ hne =>
    exact hi.move hik (holder := by simp) (others := unlock (.inr hpc)) (old := by simp [hpc]) (new := by simp)
      (seen := fun _ => hne)
  | @close i hik hpc =>
    exact hi.move hik (holder := by simp [← hi.holder, hpc]) (others := fun _ _ => .rfl) (old := by simp [hpc])
      (new := by simp) (seen := fun _ => hi.seen i (.inr (.inl hpc)))
  | @append i hik hpc hc =>
    -- the second check found nothing, so the registry becomes `[i]`
    have hnil : s.dbs = [] := hc.resolve_left (by simp)
    have hreg : ∀ j, s.pc j ≠ .dReg := fun j h => by simpa [hnil] using (hi.reg j).mpr h
    refine ⟨fun j => ?_, by simp [hnil], fun j => ?_, fun _ _ => by simp, fun j hj => ?_⟩ <;> by_cases hji : j = i
    · simp [hji, upd_same]
    · simp only [upd_other hji, unlock (.inr hpc) j hji]; exact hi.holder j
    · simp [hji, upd_same]
    · simp [upd_other hji, hnil, hji, hreg j]
    · omega
    · simp only [upd_other hji]; exact hi.bound j hj

theorem inv_reach {k : Nat} {s : St} (hr : Reach true k s) : Inv k s := by
  induction hr with
  | init => exact inv_init k
  | step _ hs ih => exact inv_step ih hs

/-- Both calls pass the first check before either registers. The run is the same with and without the second check. -/
theorem race (second : Bool) :
    ∃ s, Reach second 2 s ∧ s.mu = none ∧ s.dbs = [0] ∧ s.pc 0 = .dReg ∧ s.pc 1 = .s3 :=
  ⟨_, .step (.step (.step (.step (.step (.step (.step (.step .init
      (.lock1 (i := 0) (by decide) rfl rfl)) (.none1 (i := 0) (by decide) rfl rfl))
      (.lock1 (i := 1) (by decide) rfl rfl)) (.none1 (i := 1) (by decide) rfl rfl))
      (.open_ (i := 0) (by decide) rfl)) (.open_ (i := 1) (by decide) rfl))
      (.lock2 (i := 0) (by decide) rfl rfl)) (.append (i := 0) (by decide) rfl (.inr rfl)),
    rfl, rfl, rfl, rfl⟩

end Litestream.Locks.Register

namespace Litestream.Locks

theorem marksUnder_cons {n : Nat} {l : LockId} {h : Held} {e : Event} {p : Path}
    (hm : marksUnder n l h (e :: p) = true) :
    marksUnder n l (applyHeld h e) p = true ∧ (e = .mark n → (l, Mode.W) ∈ h) := by
  cases e with
  | mark k =>
    simp only [marksUnder, Bool.and_eq_true, Bool.or_eq_true, bne_iff_ne, List.contains_iff_mem] at hm
    exact ⟨hm.2, fun he => hm.1.resolve_left fun hk => hk (Event.mark.inj he)⟩
  | _ => exact ⟨hm, nofun⟩

/-- What keeps a checkpoint (marker 2) out of another thread's capture window: captures (marker 1) and
    checkpoints both happen under the executor semaphore (4), at most one thread holds it, and the thread in
    its window still does. `atomicRuns` closes a window at `chkMu.RLock` and at the release of the executor, so
    a window never outlasts the semaphore. -/
structure HandoffInv (s : State) (win : Option Nat) : Prop where
  excl : ExclW 4 s
  marks : ∀ t ∈ s.threads, marksUnder 1 4 t.held t.rest = true ∧ marksUnder 2 4 t.held t.rest = true
  owner : ∀ i, win = some i → ∃ t, s.threads[i]? = some t ∧ (4, Mode.W) ∈ t.held

theorem HandoffInv.step {s s' : State} {win win' : Option Nat} {i : Nat} {t : Thread} {e : Event} {p : Path}
    (h : HandoffInv s win) (ht : s.threads[i]? = some t) (hr : t.rest = e :: p) (hs : stepAt s i = some s')
    (hw : ∀ a, win' = some a → (a = i ∧ e = .mark 1) ∨ (win = some a ∧ (a ≠ i ∨ e ≠ .rel 4 .W))) :
    HandoffInv s' win' := by
  refine ⟨h.excl.step hs, forall_mem_stepAt (fun u e p hr hu => ?_) hs h.marks, fun a hwa => ?_⟩
  · rw [hr] at hu
    exact ⟨(marksUnder_cons hu.1).1, (marksUnder_cons hu.2).1⟩
  · rw [getElem?_stepAt ht hr hs]
    rcases hw a hwa with ⟨rfl, rfl⟩ | ⟨hwin, hne⟩
    · have hm := (h.marks t (List.mem_of_getElem? ht)).1
      rw [hr] at hm
      exact ⟨_, if_pos rfl, (marksUnder_cons hm).2 rfl⟩
    · obtain ⟨ta, hta, hma⟩ := h.owner a hwin
      split
      · next hai =>
        subst hai
        cases ht.symm.trans hta
        exact ⟨_, rfl, mem_applyHeld_of_mem hma (hne.resolve_left fun h => h rfl)⟩
      · exact ⟨ta, hta, hma⟩

/-- For every `fuel`, too small a one included (`atomicRuns 0` accepts): under the invariant the explorer's verdict
    adds nothing to the two `marksUnder` facts, and it is a test of its own only where it rejects. -/
theorem atomicRuns_of_inv (fuel : Nat) {s : State} {win : Option Nat} (h : HandoffInv s win) :
    atomicRuns fuel s win = true := by
  induction fuel generalizing s win with
  | zero => rfl
  | succ fuel ih =>
    simp only [atomicRuns, List.all_eq_true, List.mem_range]
    intro i _
    split
    · next t s' ht hs =>
      -- closing thread `i`'s window leaves only another thread's
      have keep : ∀ a, (if win == some i then none else win) = some a → win = some a ∧ a ≠ i := by
        intro a ha
        split at ha <;> simp_all
      -- the arms of `atomicRuns`' inner `match`, in its order; the last one carries, per arm above it and in that order,
      -- the hypothesis that the event is not that arm's
      split
      · next p hr =>  -- `mark 1`: thread `i` opens its window
        exact ih (h.step ht hr hs fun a ha => .inl ⟨(Option.some.inj ha).symm, rfl⟩)
      · next c p hr =>  -- `acq 7 R`
        exact ih (h.step ht hr hs fun a ha => .inr ((keep a ha).imp_right .inl))
      · next p hr =>  -- `rel 4 W`
        exact ih (h.step ht hr hs fun a ha => .inr ((keep a ha).imp_right .inl))
      · next p hr =>  -- `mark 2`: a checkpoint
        rw [ih (h.step ht hr hs fun a ha => .inr ⟨ha, .inr nofun⟩), Bool.and_true]
        cases hwin : win with
        | none => rfl
        | some a =>
          obtain ⟨ta, hta, hma⟩ := h.owner a hwin
          have hm := (h.marks t (List.mem_of_getElem? ht)).2
          rw [hr] at hm
          simp [h.excl hta ht hma ((marksUnder_cons hm).2 rfl)]
      · next _ _ h4 _ =>  -- any other event: `h4` says it is not `rel 4 W`
        obtain ⟨t', e, p, ht', hr, -⟩ := stepAt_eq_some hs
        cases ht.symm.trans ht'
        exact ih (h.step ht hr hs fun a ha => .inr ⟨ha, .inr fun he => h4 p (he ▸ hr)⟩)
    · rfl

theorem atomicRuns_init (ts : List Thread)
    (h : ∀ t ∈ ts, t.held = [] ∧ marksUnder 1 4 [] t.rest = true ∧ marksUnder 2 4 [] t.rest = true) (fuel : Nat) :
    atomicRuns fuel (State.init ts) none = true := by
  refine atomicRuns_of_inv fuel ⟨fun i j ti tj hti _ hi => ?_, fun t ht => ?_, nofun⟩
  · rw [(h ti (List.mem_of_getElem? hti)).1] at hi
    cases hi
  · obtain ⟨h0, hm⟩ := h t ht
    rwa [h0]

theorem handoffAtomic_of_marksUnder {a b : Path}
    (ha : marksUnder 1 4 [] a = true ∧ marksUnder 2 4 [] a = true)
    (hb : marksUnder 1 4 [] b = true ∧ marksUnder 2 4 [] b = true) : handoffAtomic a b = true :=
  atomicRuns_init _ (by simp [ha, hb]) _

end Litestream.Locks
