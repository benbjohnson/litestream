import Litestream.Model.CompactLevel
import Litestream.Lemmas.Plan
/-! Contiguous levels (`LevelWF`), what `compactPick` selects on them, and the replica invariant `RWF` with the one step
    (`RWF.append_file`) from which `C06.level_wf_step` gets `compactLevel` (`Model/CompactLevel.lean`; C06). -/
namespace Litestream

def LevelWF : List FileInfo → Prop
  | [] => True
  | [f] => 1 ≤ f.min ∧ f.min ≤ f.max
  | f :: g :: t => 1 ≤ f.min ∧ f.min ≤ f.max ∧ g.min = f.max + 1 ∧ LevelWF (g :: t)

def endMax : List FileInfo → Nat
  | [] => 0
  | [f] => f.max
  | _ :: g :: t => endMax (g :: t)

theorem endMax_eq_chainEnd : ∀ l : List FileInfo, endMax l = chainEnd 0 l
  | [] => rfl
  | [_] => rfl
  | _ :: g :: t => endMax_eq_chainEnd (g :: t)

theorem endMax_mem : ∀ {l : List FileInfo}, l ≠ [] → ∃ g ∈ l, g.max = endMax l
  | [], h => absurd rfl h
  | [f], _ => ⟨f, List.mem_cons_self, rfl⟩
  | _ :: g :: t, _ =>
    let ⟨x, hx, e⟩ := endMax_mem (List.cons_ne_nil g t)
    ⟨x, List.mem_cons_of_mem _ hx, e⟩

theorem LevelWF.tail {f : FileInfo} {rest : List FileInfo} (h : LevelWF (f :: rest)) : LevelWF rest := by
  cases rest with
  | nil => trivial
  | cons g t => exact h.2.2.2

theorem LevelWF.head {f : FileInfo} {rest : List FileInfo} (h : LevelWF (f :: rest)) : 1 ≤ f.min ∧ f.min ≤ f.max := by
  cases rest with
  | nil => exact h
  | cons g t => exact ⟨h.1, h.2.1⟩

theorem LevelWF.next {f g : FileInfo} {t : List FileInfo} (h : LevelWF (f :: g :: t)) : g.min = f.max + 1 ∧ g.min ≤ g.max :=
  ⟨h.2.2.1, h.tail.head.2⟩

theorem LevelWF.suffix : ∀ (a : List FileInfo) {b : List FileInfo}, LevelWF (a ++ b) → LevelWF b
  | [], _, h => h
  | _ :: a, _, h => LevelWF.suffix a h.tail

theorem LevelWF.bounds : ∀ {l : List FileInfo}, LevelWF l → ∀ g ∈ l, 1 ≤ g.min ∧ g.min ≤ g.max
  | _ :: _, h, g, hg => (List.mem_cons.mp hg).elim (· ▸ h.head) (h.tail.bounds g)

theorem LevelWF.max_lt_min {f : FileInfo} {rest : List FileInfo} (h : LevelWF (f :: rest)) : ∀ g ∈ rest, f.max < g.min := by
  induction rest generalizing f with
  | nil => exact nofun
  | cons x t ih =>
    intro g hg
    have := h.next
    rcases List.mem_cons.mp hg with rfl | hg
    · omega
    · have := ih h.tail g hg
      omega

theorem LevelWF.max_le_endMax {f : FileInfo} {rest : List FileInfo} (h : LevelWF (f :: rest)) : f.max ≤ endMax (f :: rest) := by
  induction rest generalizing f with
  | nil => exact Nat.le_refl _
  | cons x t ih =>
    have := ih h.tail
    have := h.next
    show f.max ≤ endMax (x :: t)
    omega

theorem LevelWF.append_one {info : FileInfo} (h1 : 1 ≤ info.min) (h2 : info.min ≤ info.max) :
    ∀ {l : List FileInfo}, LevelWF l → (l ≠ [] → info.min = endMax l + 1) → LevelWF (l ++ [info])
  | [], _, _ => ⟨h1, h2⟩
  | [_], h, hs => ⟨h.1, h.2, hs (List.cons_ne_nil _ _), h1, h2⟩
  | _ :: _ :: _, h, hs => ⟨h.1, h.2.1, h.2.2.1, LevelWF.append_one h1 h2 h.2.2.2 fun _ => hs (List.cons_ne_nil _ _)⟩

theorem LevelWF.cover {f : FileInfo} {rest : List FileInfo} (h : LevelWF (f :: rest)) (t : Nat) :
    (f.min ≤ t ∧ t ≤ endMax (f :: rest)) ↔ ∃ g ∈ f :: rest, g.min ≤ t ∧ t ≤ g.max := by
  induction rest generalizing f with
  | nil => simp [endMax]
  | cons x u ih =>
    have hfb := h.head
    have hge := h.tail.max_le_endMax
    have := h.next
    rw [show (∃ g ∈ f :: x :: u, g.min ≤ t ∧ t ≤ g.max) ↔ (f.min ≤ t ∧ t ≤ f.max) ∨ ∃ g ∈ x :: u, g.min ≤ t ∧ t ≤ g.max by
      simp only [List.mem_cons, exists_eq_or_imp], ← ih h.tail]
    show f.min ≤ t ∧ t ≤ endMax (x :: u) ↔ _
    omega

theorem maxInfoScan_max {f : FileInfo} {rest : List FileInfo} (h : LevelWF (f :: rest)) :
    (maxInfoScan f rest).max = chainEnd f.max rest := by
  induction rest generalizing f with
  | nil => rfl
  | cons x t ih =>
    have := h.next
    rw [maxInfoScan, if_pos (by omega)]
    exact ih h.tail

theorem maxInfoScan_zero_max {l : List FileInfo} (h : LevelWF l) : (maxInfoScan zeroInfo l).max = endMax l := by
  cases l with
  | nil => rfl
  | cons f rest =>
    have hb := h.head
    have h0 : f.max > zeroInfo.max := Nat.lt_of_lt_of_le hb.1 hb.2
    rw [maxInfoScan, if_pos h0, maxInfoScan_max h, endMax_eq_chainEnd, chainEnd_cons]

theorem rangeLoop_wf {f : FileInfo} {rest : List FileInfo} (h : LevelWF (f :: rest)) {mn : Nat} (h1 : 1 ≤ mn)
    (h2 : mn ≤ f.max) : rangeLoop mn f.max rest = (mn, chainEnd f.max rest) := by
  induction rest generalizing f with
  | nil => rfl
  | cons x t ih =>
    have := h.next
    rw [rangeLoop, if_neg (by omega), if_pos (by omega)]
    exact ih h.tail (by omega)

theorem rangeLoop_start {f : FileInfo} {rest : List FileInfo} (h : LevelWF (f :: rest)) :
    rangeLoop 0 0 (f :: rest) = (f.min, endMax (f :: rest)) := by
  have hb := h.head
  rw [rangeLoop, if_pos (.inl rfl), if_pos (.inl rfl), endMax_eq_chainEnd]
  exact rangeLoop_wf h hb.1 hb.2

theorem lastInfo_max (f : FileInfo) (rest : List FileInfo) : (lastInfo f rest).max = chainEnd f.max rest := by
  induction rest generalizing f with
  | nil => rfl
  | cons g t ih => exact ih g

/-- On a contiguous level the files listed after `g` are exactly those that start at `g.max + 1` or later. -/
theorem LevelWF.filter_after {l : List FileInfo} (h : LevelWF l) {g : FileInfo} (hg : g ∈ l) :
    ∃ pre, l = pre ++ g :: l.filter (fun f => decide (g.max + 1 ≤ f.min)) := by
  induction l with
  | nil => cases hg
  | cons f rest ih =>
    have hfb := h.head
    rcases List.mem_cons.mp hg with rfl | hg
    · refine ⟨[], ?_⟩
      rw [List.filter_cons_of_neg (by rw [decide_eq_true_eq]; omega),
        List.filter_eq_self.mpr fun x hx => decide_eq_true (Nat.succ_le_of_lt (h.max_lt_min x hx))]
      rfl
    · obtain ⟨pre, e⟩ := ih h.tail hg
      have := h.max_lt_min g hg
      have := h.tail.bounds g hg
      rw [List.filter_cons_of_neg (by rw [decide_eq_true_eq]; omega)]
      exact ⟨f :: pre, congrArg (f :: ·) e⟩

/-- `aligned`: the end of every level ≥ 1 is a file boundary of the level below, so the files of that level from
    the seek point on are the ones listed after that boundary (`LevelWF.filter_after`). -/
structure RWF (st : RState) : Prop where
  wf : ∀ l, LevelWF (st.files l)
  cache : ∀ l i, st.cache l = some i → i.max = endMax (st.files l)
  aligned : ∀ l, 1 ≤ l → st.files l ≠ [] → ∃ g ∈ st.files (l - 1), g.max = endMax (st.files l)

theorem seekTx_eq {st : RState} (h : RWF st) (dst : Nat) : seekTx st dst = endMax (st.files dst) + 1 := by
  unfold seekTx maxLTXFileInfo
  cases hc : st.cache dst with
  | some i => exact congrArg (· + 1) (h.cache dst i hc)
  | none =>
    exact congrArg (· + 1) (maxInfoScan_zero_max (h.wf dst))

theorem sources_wf {st : RState} (h : RWF st) {dst : Nat} (hd : dst ≠ 0) {f : FileInfo} {t : List FileInfo}
    (hs : sources st dst = f :: t) :
    LevelWF (f :: t) ∧ endMax (f :: t) = endMax (st.files (dst - 1)) ∧
    (st.files dst ≠ [] → f.min = endMax (st.files dst) + 1) := by
  unfold sources at hs
  rw [seekTx_eq h dst] at hs
  by_cases hde : st.files dst = []
  · have hall : ∀ g ∈ st.files (dst - 1), decide (endMax (st.files dst) + 1 ≤ g.min) = true := fun g hg =>
      decide_eq_true (by rw [hde]; exact ((h.wf (dst - 1)).bounds g hg).1)
    rw [List.filter_eq_self.mpr hall] at hs
    rw [← hs]
    exact ⟨h.wf _, rfl, fun hne => absurd hde hne⟩
  · obtain ⟨g, hg, hge⟩ := h.aligned dst (by omega) hde
    obtain ⟨pre, e⟩ := (h.wf (dst - 1)).filter_after hg
    rw [hge, hs] at e
    have hw : LevelWF (g :: f :: t) := LevelWF.suffix pre (e ▸ h.wf (dst - 1))
    exact ⟨hw.tail, by simp only [e, endMax_eq_chainEnd, chainEnd_append, chainEnd_cons], fun _ => hge ▸ hw.next.1⟩

theorem compactPick_ok {st : RState} {dst : Nat} {pk : LevelPick} (h : RWF st) (hp : compactPick st dst = .ok pk) :
    dst ≠ 0 ∧ ∃ f t, sources st dst = f :: t ∧ LevelWF (f :: t) ∧
      pk = ⟨seekTx st dst, f :: t, f.min, endMax (f :: t)⟩ := by
  unfold compactPick at hp
  split at hp
  · cases hp  -- `dst = 0`
  next hd0 =>
    cases hs : sources st dst with
    | nil => simp [hs] at hp
    | cons f t =>
      have hwf := (sources_wf h hd0 hs).1
      simp only [hs, List.isEmpty_cons, Bool.false_eq_true, if_false, rangeLoop_start hwf, Except.ok.injEq] at hp
      exact ⟨hd0, f, t, rfl, hwf, hp.symm⟩

theorem setAt_self {α : Type} (f : Nat → α) (k : Nat) (v : α) : setAt f k v k = v := if_pos rfl

theorem setAt_ne {α : Type} (f : Nat → α) {k l : Nat} (v : α) (h : l ≠ k) : setAt f k v l = f l := if_neg h

theorem fillCache_other (st : RState) (dst l : Nat) (hl : l ≠ dst) : (fillCache st dst).cache l = st.cache l := by
  unfold fillCache
  split
  · rfl  -- cached
  · simp only []
    split
    · exact setAt_ne _ _ hl  -- the listing's newest file is stored, at `dst`
    · rfl  -- empty level

theorem RWF.append_file {st : RState} (h : RWF st) {dst : Nat} (hd : dst ≠ 0) {info : FileInfo}
    {cache : Nat → Option FileInfo} (hcache : ∀ l, l ≠ dst → cache l = st.cache l)
    (h1 : 1 ≤ info.min) (h2 : info.min ≤ info.max)
    (hstart : st.files dst ≠ [] → info.min = endMax (st.files dst) + 1)
    (hend : ∃ g ∈ st.files (dst - 1), g.max = info.max) :
    RWF ⟨setAt st.files dst (st.files dst ++ [info]), setAt cache dst (some info)⟩ := by
  have happ := LevelWF.append_one h1 h2 (h.wf dst) hstart
  have hmax : endMax (st.files dst ++ [info]) = info.max := by rw [endMax_eq_chainEnd, chainEnd_append]; rfl
  refine ⟨fun l => ?_, fun l i hci => ?_, fun l hl1 hne => ?_⟩
  · show LevelWF (setAt st.files dst _ l)
    by_cases hl : l = dst
    · rw [hl, setAt_self]; exact happ
    · rw [setAt_ne _ _ hl]; exact h.wf l
  · show i.max = endMax (setAt st.files dst _ l)
    replace hci : setAt cache dst _ l = some i := hci
    by_cases hl : l = dst
    · rw [hl, setAt_self] at hci ⊢
      rw [hmax, ← Option.some.inj hci]
    · rw [setAt_ne _ _ hl, hcache l hl] at hci
      rw [setAt_ne _ _ hl]; exact h.cache l i hci
  · show ∃ g ∈ setAt st.files dst _ (l - 1), g.max = endMax (setAt st.files dst _ l)
    replace hne : setAt st.files dst _ l ≠ [] := hne
    by_cases hl : l = dst
    · rw [hl, setAt_self, setAt_ne _ _ (Nat.ne_of_lt (Nat.sub_one_lt hd)), hmax]
      exact hend
    · rw [setAt_ne _ _ hl] at hne ⊢
      obtain ⟨g, hg, hge⟩ := h.aligned l hl1 hne
      refine ⟨g, ?_, hge⟩
      by_cases hl' : l - 1 = dst
      · rw [hl', setAt_self]; exact List.mem_append_left _ (hl' ▸ hg)
      · rw [setAt_ne _ _ hl']; exact hg

end Litestream
