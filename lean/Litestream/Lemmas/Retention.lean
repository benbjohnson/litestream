import Litestream.Props.C08
import Litestream.Model.Retention
/-! Retention (C07): `Reach r N` says what the latest plan computes without mentioning the planner, and only
    `latest_iff_reach` uses C08's theorems.  A deletion that leaves an anchor chain of survivors (`SafeDel`) preserves
    `Reach` and `Covered`, both by `Chain.transfer`.  Then what each retention function of `Model/Retention.lean` leaves,
    and the executable checks. -/
namespace Litestream

def latest : Target := ⟨0, none⟩

/-- `N` is as far as the visible files lead. -/
structure Reach (r : List FileInfo) (N : Nat) : Prop where
  pos : 0 < N
  chain : ∃ Q, Chain (Vis r) 0 Q N
  closed : ∀ f, Vis r f → f.max ≤ N ∧ f.min ≤ N + 1

theorem latest_iff_reach {r N} (hwf : FilesWF r) :
    (∃ P, planFiles r latest = .ok P ∧ chainEnd 0 P = N) ↔ Reach r N := by
  have hlw := listLevel_wf hwf
  constructor
  · rintro ⟨P, hP, rfl⟩
    have hv := (C08.plan_sound hlw hP).1
    have hmin : ∀ f, Vis r f → f.min ≤ chainEnd 0 P + 1 := by
      intro f hf
      by_cases hl : f.level < snapshotLevel
      · exact Nat.le_of_not_lt fun hlt => C08.planFiles_reports_gap hwf hP ⟨f, hf.1, hl, hlt⟩
      · have := (hwf f hf.1).2.2 (by have := hf.2; omega)
        omega
    refine ⟨hv.pos, ⟨P, hv.vis⟩, fun f hf => ⟨Nat.le_of_not_lt fun hlt => ?_, hmin f hf⟩⟩
    -- a visible file reaching beyond the plan's end would extend the plan to a longer chain
    have := C08.latest_reaches_max hwf hP (hv.vis.snoc hf (hmin f hf) hlt)
    omega
  · rintro ⟨hpos, ⟨Q, hQ⟩, hcl⟩
    obtain ⟨P, hP⟩ := C08.latest_planned hwf hQ hpos fun f hf hl => (hcl f ⟨hf, Nat.le_of_lt hl⟩).2
    refine ⟨P, hP, Nat.le_antisymm ?_ (C08.latest_reaches_max hwf hP hQ)⟩
    exact (C08.plan_sound hlw hP).1.vis.le_of_closed (fun f hf _ => (hcl f hf).1) (Nat.zero_le _)

theorem Reach.add {r N g} (h : Reach r N) (hl : g.level ≤ snapshotLevel) (hmin : g.min ≤ N + 1) :
    Reach (g :: r) (max N g.max) := by
  obtain ⟨Q, hQ⟩ := h.chain
  have hQ' : Chain (Vis (g :: r)) 0 Q N := hQ.mono fun f hf => ⟨List.mem_cons_of_mem _ hf.1, hf.2⟩
  refine ⟨Nat.lt_of_lt_of_le h.pos (Nat.le_max_left _ _), hQ'.snoc_max ⟨List.mem_cons_self, hl⟩ hmin, fun f hf => ?_⟩
  rcases List.mem_cons.mp hf.1 with rfl | hfr
  · exact ⟨Nat.le_max_right _ _, by omega⟩
  · have := h.closed f ⟨hfr, hf.2⟩; omega

/-- That `Q0` avoids level 0 serves `Covered.del` only; `Reach.del` drops it. -/
structure SafeDel (r r' : List FileInfo) : Prop where
  sub : ∀ f ∈ r', f ∈ r
  anchor : ∃ Q0 e, Chain (fun f => Vis r' f ∧ f.level ≠ 0) 0 Q0 e ∧ ∀ f ∈ r, e < f.max → f ∈ r'

theorem filesWF_sub {r r'} (hwf : FilesWF r) (hsub : ∀ f ∈ r', f ∈ r) : FilesWF r' :=
  fun f hf => hwf f (hsub f hf)

/-- The anchor chain, extended by what the old chain has beyond it (`transfer`), is a chain of survivors. -/
theorem Reach.del {r r' N} (h : SafeDel r r') (hr : Reach r N) : Reach r' N := by
  obtain ⟨Q0, e, hQ0, hkeep⟩ := h.anchor
  obtain ⟨Q, hQ⟩ := hr.chain
  have hvis : ∀ f, Vis r' f → Vis r f := fun f hf => ⟨h.sub f hf.1, hf.2⟩
  have hc : e ≤ N := hQ0.le_of_closed (fun f hf _ => (hr.closed f (hvis f hf.1)).1) (Nat.zero_le _)
  obtain ⟨B, hB⟩ := (hQ0.mono fun f hf => hf.1).transfer
    (hQ.mono fun f hf hlt => ⟨hkeep f hf.1 hlt, hf.2⟩) (Nat.zero_le _)
  rw [Nat.max_eq_right hc] at hB
  exact ⟨hr.pos, ⟨B, hB⟩, fun f hf => hr.closed f (hvis f hf)⟩

theorem mem_withLevel {fs l K f} : f ∈ withLevel fs l K ↔ (f ∈ fs ∧ f.level ≠ l) ∨ f ∈ K := by
  simp [withLevel]

theorem SafeDel.withLevel {r l K Q0 e} (hK : ∀ f ∈ K, f ∈ listLevel r l)
    (hQ0 : Chain (fun f => Vis (withLevel r l K) f ∧ f.level ≠ 0) 0 Q0 e)
    (hkeep : ∀ f ∈ listLevel r l, e < f.max → f ∈ K) : SafeDel r (withLevel r l K) := by
  refine ⟨?_, Q0, e, hQ0, ?_⟩
  · intro f hf
    rcases mem_withLevel.mp hf with h | h
    · exact h.1
    · exact (mem_listLevel.mp (hK f h)).1
  · intro f hf hlt
    by_cases hl : f.level = l
    · exact mem_withLevel.mpr (Or.inr (hkeep f (mem_listLevel.mpr ⟨hf, hl⟩) hlt))
    · exact mem_withLevel.mpr (Or.inl ⟨hf, hl⟩)

theorem maxL1_le_iff {r : List FileInfo} {B : Nat} : maxL1 r ≤ B ↔ ∀ f ∈ r, f.level = 1 → f.max ≤ B := by
  simp [maxL1, foldl_sup_le_iff fileMax_step_le_iff, mem_listLevel]

theorem le_maxL1 {r f} (hf : f ∈ r) (hl : f.level = 1) : f.max ≤ maxL1 r :=
  maxL1_le_iff.mp (Nat.le_refl _) f hf hl

theorem maxL1_mono {r r'} (hsub : ∀ f ∈ r', f ∈ r) : maxL1 r' ≤ maxL1 r :=
  maxL1_le_iff.mpr fun f hf hl => le_maxL1 (hsub f hf) hl

/-- Only `Covered` is stated with this; `covered_iff` restates it over `Chain` (Lemmas/Plan.lean), in whose
    terms this file is written. -/
def ChainOverP (S : FileInfo → Prop) (Q : List FileInfo) : Prop :=
  chainFrom 0 Q = true ∧ ∀ f ∈ Q, S f

theorem chainOverP_iff {S : FileInfo → Prop} {Q} : ChainOverP S Q ↔ ∃ n, Chain S 0 Q n :=
  ⟨fun h => ⟨_, h.1, rfl, h.2⟩, fun ⟨_, h⟩ => ⟨h.chain, h.files⟩⟩

/-- The highest TXID compacted into L1 is reachable without level-0 files. -/
def Covered (r : List FileInfo) : Prop :=
  ∃ Q, ChainOverP (fun f => Vis r f ∧ f.level ≠ 0) Q ∧ maxL1 r ≤ chainEnd 0 Q

theorem covered_iff {r} : Covered r ↔ ∃ Q e, Chain (fun f => Vis r f ∧ f.level ≠ 0) 0 Q e ∧ maxL1 r ≤ e := by
  constructor
  · rintro ⟨Q, hQ, hM⟩
    obtain ⟨e, he⟩ := chainOverP_iff.mp hQ
    exact ⟨Q, e, he, he.reach ▸ hM⟩
  · rintro ⟨Q, e, hQ, hM⟩
    exact ⟨Q, chainOverP_iff.mpr ⟨e, hQ⟩, hQ.reach ▸ hM⟩

theorem Covered.del {r r'} (h : SafeDel r r') (hc : Covered r) : Covered r' := by
  obtain ⟨Q0, e0, hQ0, hkeep⟩ := h.anchor
  obtain ⟨Q, e, hQ, hM⟩ := covered_iff.mp hc
  obtain ⟨B, hB⟩ := hQ0.transfer (hQ.mono fun f hf hlt => ⟨⟨hkeep f hf.1.1 hlt, hf.1.2⟩, hf.2⟩) (Nat.zero_le _)
  have := maxL1_mono h.sub
  exact covered_iff.mpr ⟨B, _, hB, by omega⟩

/-- Only an L1 file can disturb `Covered`: it starts within the old cover (`h1`) and so extends it. -/
theorem Covered.add {r g} (h : Covered r) (h1 : g.level = 1 → g.min ≤ maxL1 r + 1) : Covered (g :: r) := by
  obtain ⟨Q, e, hQ, hM⟩ := covered_iff.mp h
  have hQ' : Chain (fun f => Vis (g :: r) f ∧ f.level ≠ 0) 0 Q e :=
    hQ.mono fun f hf => ⟨⟨List.mem_cons_of_mem _ hf.1.1, hf.1.2⟩, hf.2⟩
  have hr : ∀ f ∈ r, f.level = 1 → f.max ≤ e := maxL1_le_iff.mp hM
  by_cases hg : g.level = 1
  · obtain ⟨Q', hQ''⟩ := hQ'.snoc_max (k := g) ⟨⟨List.mem_cons_self, by rw [hg]; decide⟩, by omega⟩
      (by have := h1 hg; omega)
    refine covered_iff.mpr ⟨Q', _, hQ'', maxL1_le_iff.mpr (List.forall_mem_cons.mpr ⟨fun _ => by omega, fun f hf hl => ?_⟩)⟩
    have := hr f hf hl; omega
  · exact covered_iff.mpr ⟨Q, e, hQ', maxL1_le_iff.mpr (List.forall_mem_cons.mpr ⟨fun h => absurd h hg, hr⟩)⟩

theorem snapMax_of_none {r} (h : (listLevel r snapshotLevel).getLast? = none) : snapMax r = 0 := by
  rw [snapMax, lastMax, h]

theorem snapMax_of_last {r S} (h : (listLevel r snapshotLevel).getLast? = some S) : snapMax r = S.max := by
  rw [snapMax, lastMax, h]

theorem le_snapMax {r f} (hwf : FilesWF r) (hf : f ∈ listLevel r snapshotLevel) : f.max ≤ snapMax r := by
  cases hS : (listLevel r snapshotLevel).getLast? with
  | none => rw [List.getLast?_eq_none_iff.mp hS] at hf; cases hf
  | some S =>
    rw [snapMax_of_last hS]
    rcases le_getLast (listLevel_wf hwf).sortedSnap hS f hf with h | h
    · rw [h]; exact Nat.le_refl _
    · exact h

/-- A snapshot starts at TXID 1, so the newest one alone is a chain from 0 to `snapMax r` over every
    file set that still holds it (with no snapshot the empty chain does: `snapMax r = 0`). -/
theorem snap_anchor {r r' : List FileInfo} (hwf : FilesWF r)
    (h : ∀ S, (listLevel r snapshotLevel).getLast? = some S → S ∈ r') :
    ∃ Q0, Chain (fun f => Vis r' f ∧ f.level ≠ 0) 0 Q0 (snapMax r) := by
  cases hS : (listLevel r snapshotLevel).getLast? with
  | none => exact ⟨[], Chain.nil_iff.mpr (snapMax_of_none hS).symm⟩
  | some S =>
    obtain ⟨hSr, hSl⟩ := mem_listLevel.mp (List.mem_of_getLast? hS)
    obtain ⟨h1, h2, h3⟩ := hwf S hSr
    rw [snapMax_of_last hS]
    exact ⟨_, Chain.nil.snoc (k := S) ⟨⟨h S hS, Nat.le_of_eq hSl⟩, by rw [hSl]; decide⟩
      (by rw [h3 hSl]; exact Nat.le_add_left 1 _) (show 0 < S.max by omega)⟩

theorem mem_keepButLast {p : FileInfo → Bool} {L : List FileInfo} {f : FileInfo} :
    f ∈ keepButLast p L ↔ (f ∈ L ∧ p f = false) ∨ L.getLast? = some f := by
  fun_induction keepButLast p L with
  | case1 => simp  -- `[]`
  | case2 g =>  -- `[g]`: kept whatever `p` says
    simp only [List.mem_singleton, List.getLast?_singleton, Option.some.injEq]
    exact ⟨fun h => Or.inr h.symm, fun h => h.elim (·.1) (·.symm)⟩
  | case3 g h rest hp ih =>  -- `p g`: dropped
    rw [ih, List.getLast?_cons_cons, List.mem_cons (a := f) (b := g)]
    by_cases hfg : f = g
    · subst hfg; simp [hp]
    · simp [hfg]
  | case4 g h rest hp ih =>  -- kept
    rw [List.mem_cons, ih, List.getLast?_cons_cons, List.mem_cons (a := f) (b := g)]
    by_cases hfg : f = g
    · subst hfg; simp [hp]
    · simp [hfg]

theorem floorDB_spec (p : FileInfo → Bool) (L : List FileInfo) (prev : Option FileInfo) :
    floorDB p prev L = 0 ∨ ∃ q ∈ prev.toList ++ L, floorDB p prev L = q.max := by
  fun_induction floorDB p prev L with
  | case1 | case2 | case5 => exact Or.inl rfl  -- empty listing, or the scan ends with `prev = none`: 0
  | case3 _ q | case6 _ _ _ _ q => exact Or.inr ⟨q, List.mem_cons_self, rfl⟩  -- the scan ends with `prev = some q`
  | case4 prev f g rest _ ih =>  -- `p f`: the scan goes on with `prev := f`
    rcases ih with h | ⟨q, hq, h⟩
    · exact Or.inl h
    · exact Or.inr ⟨q, List.mem_append_right _ hq, h⟩

theorem floorCompactor_spec (thr : Nat) (L : List FileInfo) :
    floorCompactor thr L = 0 ∨ ∃ q ∈ L, floorCompactor thr L = q.max := by
  refine foldl_pick (fun m x => ?_) L 0
  split
  · exact Or.inl rfl
  · split
    · exact Or.inr rfl
    · exact Or.inl rfl

theorem mem_levelsUpTo {k l : Nat} : l ∈ levelsUpTo k ↔ 1 ≤ l ∧ l ≤ k := by
  simp only [levelsUpTo, List.mem_map, List.mem_range]
  constructor
  · rintro ⟨a, ha, rfl⟩; omega
  · intro h; exact ⟨l - 1, by omega, by omega⟩

theorem snapRetDB_replica (thr : Nat) (r : List FileInfo) : (snapRetDB thr r).replica =
    withLevel r snapshotLevel (keepButLast (olderThan thr) (listLevel r snapshotLevel)) := rfl

theorem snapRetCompactor_replica (thr : Nat) (r : List FileInfo) :
    (snapRetCompactor thr r).replica = (snapRetDB thr r).replica := rfl

theorem txidRet_replica (l tx : Nat) (r : List FileInfo) : (txidRet l tx r).replica =
    withLevel r l (keepButLast (belowTx tx) (listLevel r l)) := rfl

theorem l0Ret_replica (en : Bool) (thr : Nat) (r : List FileInfo) : (l0Ret en thr r).replica =
    if (!en || maxL1 r == 0) = true then r else withLevel r 0 (l0Keep thr (maxL1 r) (listLevel r 0)) :=
  apply_ite RetOut.replica _ _ _

theorem cascade_replica (thr k : Nat) (r : List FileInfo) : (cascade thr k r).replica =
    (cascadeLevels (snapRetDB thr r).floor (levelsUpTo k) (snapRetDB thr r).replica).2 := rfl

theorem cascadeCompactor_replica (thr k : Nat) (r : List FileInfo) : (cascadeCompactor thr k r).replica =
    (cascadeLevels (snapRetCompactor thr r).floor (levelsUpTo k) (snapRetCompactor thr r).replica).2 := rfl

theorem l0Keep_sub {thr m : Nat} {L : List FileInfo} : ∀ f ∈ l0Keep thr m L, f ∈ L := by
  fun_induction l0Keep thr m L with
  | case1 | case2 | case3 => exact fun _ hf => hf  -- `[]`, `[f]`, stop at a recent file: all kept
  | case4 _ _ _ _ _ ih => exact fun x hx => List.mem_cons_of_mem _ (ih x hx)  -- head dropped
  | case5 _ _ _ _ _ ih =>  -- head kept
    exact List.forall_mem_cons.mpr ⟨List.mem_cons_self, fun x hx => List.mem_cons_of_mem _ (ih x hx)⟩

theorem l0Keep_keep {thr m : Nat} {L : List FileInfo} : ∀ f ∈ L, m < f.max → f ∈ l0Keep thr m L := by
  fun_induction l0Keep thr m L with
  | case1 | case2 | case3 => exact fun _ hf _ => hf  -- `[]`, `[f]`, stop at a recent file: all kept
  | case4 f g rest _ hle ih =>  -- `f.max ≤ m`: dropped
    intro x hx hm
    rcases List.mem_cons.mp hx with rfl | hx
    · omega
    · exact ih x hx hm
  | case5 f g rest _ _ ih =>  -- kept
    intro x hx hm
    rcases List.mem_cons.mp hx with rfl | hx
    · exact List.mem_cons_self
    · exact List.mem_cons_of_mem _ (ih x hx hm)

theorem l0Keep_last (thr m : Nat) (L : List FileInfo) : (l0Keep thr m L).getLast? = L.getLast? := by
  fun_induction l0Keep thr m L with
  | case1 | case2 | case3 => rfl
  | case4 _ _ _ _ _ ih => rw [ih, List.getLast?_cons_cons]  -- head dropped: the tail is not empty
  | case5 _ _ _ _ _ ih => rw [List.getLast?_cons, List.getLast?_cons, ih]  -- head kept

theorem l0Keep_all (thr m : Nat) (L : List FileInfo) (h : ∀ f ∈ L, m < f.max) : l0Keep thr m L = L := by
  fun_induction l0Keep thr m L with
  | case1 | case2 | case3 => rfl
  | case4 f _ _ _ hle => have := h f List.mem_cons_self; omega  -- dropping `f` needs `f.max ≤ m`
  | case5 f g rest _ _ ih => rw [ih fun x hx => h x (List.mem_cons_of_mem _ hx)]

theorem adjacent_cons {f : FileInfo} {L : List FileInfo} :
    adjacent (f :: L) = true ↔ f.min ≤ f.max ∧ (∀ g ∈ L.head?, g.min = f.max + 1) ∧ adjacent L = true := by
  cases L with
  | nil => simp [adjacent]
  | cons g t => simp [adjacent, and_assoc]

theorem adjacent_lt {f : FileInfo} {L : List FileInfo} (h : adjacent (f :: L) = true) : ∀ g ∈ L, f.max < g.max := by
  induction L generalizing f with
  | nil => exact nofun
  | cons y t ih =>
    obtain ⟨_, hlink, hyt⟩ := adjacent_cons.mp h
    have := hlink y rfl
    have := (adjacent_cons.mp hyt).1
    intro g hg
    rcases List.mem_cons.mp hg with rfl | hg
    · omega
    · have := ih hyt g hg; omega

theorem adjacent_drop : ∀ (k : Nat) (L : List FileInfo), adjacent L = true → adjacent (L.drop k) = true
  | 0, _, h => h
  | _ + 1, [], _ => rfl
  | k + 1, _ :: t, h => adjacent_drop k t (adjacent_cons.mp h).2.2

theorem mem_nonL0 {fs : List FileInfo} {f : FileInfo} : f ∈ nonL0 fs ↔ f ∈ fs ∧ f.level ≠ 0 := by
  simp [nonL0]

theorem filesWF_of_check {r : List FileInfo} (h : filesWFB r = true) : FilesWF r := by
  intro f hf
  have : (1 ≤ f.min ∧ f.min ≤ f.max) ∧ (f.level ≠ snapshotLevel ∨ f.min = 1) := by
    simpa using List.all_eq_true.mp h f hf
  exact ⟨this.1.1, this.1.2, fun hl => this.2.resolve_left fun h => h hl⟩

end Litestream
