import Litestream.Lemmas.FsKill
/-! The checker `check` (C11): what an accepted call tells, and the invariant of the checker's state. It
    contains the kill invariant; what the flush rules add is that published inodes are flushed, and the
    meaning of the checker's bookkeeping (`pending`, `durable`). -/
namespace Litestream.Fs

theorem check_rename {c c' : CState} {a b : Path} (h : check c (.rename a b) = .ok c') :
    a.final = false ∧
      ((b.final = true ∧ ∃ i, c.fs.vol a = some i ∧ c.fs.synced i = c.fs.written i ∧
          c' = { c with fs := step c.fs (.rename a b), pending := b :: c.pending }) ∨
       (b.final = false ∧ c' = { c with fs := step c.fs (.rename a b) })) := by
  simp only [check] at h
  split at h
  · cases h
  · rename_i ha
    refine ⟨Bool.eq_false_iff.mpr ha, ?_⟩
    split at h
    · rename_i hb
      split at h
      · cases h
      · rename_i i hi
        split at h
        · rename_i hs; cases h; exact .inl ⟨hb, i, hi, hs, rfl⟩
        · cases h
    · rename_i hb; cases h; exact .inr ⟨Bool.eq_false_iff.mpr hb, rfl⟩

theorem check_rename_final {c c' : CState} {a b : Path} (h : check c (.rename a b) = .ok c') (hb : b.final = true) :
    ∃ i, c.fs.vol a = some i ∧ c.fs.synced i = c.fs.written i ∧
      c' = { c with fs := step c.fs (.rename a b), pending := b :: c.pending } := by
  obtain ⟨-, ⟨-, hi⟩ | ⟨hb', -⟩⟩ := check_rename h
  · exact hi
  · rw [hb] at hb'; cases hb'

theorem check_unlink {c c' : CState} {p : Path} (h : check c (.unlink p) = .ok c') :
    c' = ⟨step c.fs (.unlink p), c.pending.filter (· ≠ p), c.durable.filter (· ≠ p)⟩ ∧
      (p.final = true → 0 < p.max → ∃ g ∈ c.durable, covers g p = true) := by
  simp only [check] at h
  split at h
  · split at h
    · rename_i hany; cases h; exact ⟨rfl, fun _ _ => by simpa using hany⟩
    · cases h
  · rename_i hp; cases h; exact ⟨rfl, fun h1 h2 => absurd ⟨h1, h2⟩ hp⟩

theorem check_marker {c c' : CState} {n : Nat} : check c (.ok n) = .ok c' ↔ c.pending = [] ∧ c' = c := by
  simp only [check, List.isEmpty_iff]
  split
  · rename_i hp; exact ⟨fun h => ⟨hp, by cases h; rfl⟩, fun h => by rw [h.2]⟩
  · rename_i hp; exact ⟨nofun, fun h => absurd h.1 hp⟩

theorem check_fs {c c' : CState} {e : Event} (h : check c e = .ok c') :
    c'.fs = step c.fs e ∧ killCheck e = none := by
  cases e with
  | create p | write p | truncate p =>
    simp only [check] at h
    split at h
    · cases h
    · rename_i hp; cases h; exact ⟨rfl, by simp only [killCheck, hp]; rfl⟩
  | rename a b =>
    obtain ⟨ha, ⟨-, -, -, -, rfl⟩ | ⟨-, rfl⟩⟩ := check_rename h
    all_goals exact ⟨rfl, by simp only [killCheck, ha]; rfl⟩
  | unlink p => rw [(check_unlink h).1]; exact ⟨rfl, rfl⟩
  | ok n => rw [(check_marker.mp h).2]; exact ⟨rfl, rfl⟩
  | fsync p | close p | fsyncDir d => cases h; exact ⟨rfl, rfl⟩

theorem vol_check_ne_none {c c' : CState} {e : Event} (h : check c e = .ok c') {f : Path} (hf : f.final = true)
    (hne : e ≠ .unlink f) (hv : c.fs.vol f ≠ none) : c'.fs.vol f ≠ none := by
  obtain ⟨hfs, hk⟩ := check_fs h
  rw [hfs, step_vol]
  split
  · -- create
    split
    · exact Option.some_ne_none _
    · exact hv
  · -- unlink
    split
    · rename_i hfq; exact absurd (by rw [hfq]) hne
    · exact hv
  · -- rename
    split
    · rename_i hfa; exact absurd hfa (final_ne hf (kill_rename hk))
    · split
      · -- the checker demanded that the source of a publication exists
        rename_i hfb
        obtain ⟨i, hi, -⟩ := check_rename_final h (hfb ▸ hf)
        rw [hi]; exact Option.some_ne_none i
      · exact hv
  · exact hv

structure CInv (c : CState) : Prop where
  kill : KInv c.fs
  flushed : ∀ p i, p.final = true → some i ∈ c.fs.may p → c.fs.synced i = c.fs.written i
  /-- `pending`: published names, still bound, whose directory has not been flushed since -/
  pend : ∀ p ∈ c.pending, p.final = true ∧ c.fs.vol p ≠ none
  /-- the directory of a final name that is not pending is flushed: a crash leaves exactly what the name shows
      (what a success marker, accepted only with nothing pending, acknowledges) -/
  settled : ∀ p i, p.final = true → p ∉ c.pending → c.fs.vol p = some i → c.fs.may p = [some i]
  dur : ∀ g ∈ c.durable, g.final = true ∧ DurablyVisible c.fs g

theorem cinv_init : CInv cinit :=
  ⟨kinv_init, fun p i _ h => by simp [cinit, init] at h, fun p h => by simp [cinit] at h,
   fun p i _ _ h => by simp [cinit, init] at h, fun g h => by simp [cinit] at h⟩

theorem durablyVisible_check {c c' : CState} {e : Event} (hc : CInv c) (h : check c e = .ok c') {f : Path}
    (hf : f.final = true) (hne : e ≠ .unlink f) (hd : DurablyVisible c.fs f) : DurablyVisible c'.fs f := by
  intro b hb
  have hv := vol_check_ne_none h hf hne (hd _ (hc.kill.fs.volMay f))
  rw [(check_fs h).1] at hb hv
  rcases may_step_mem hc.kill.fs hb with rfl | hb
  · exact hv
  · exact hd b hb

/-- The part of the invariant that does not mention the checker's bookkeeping. -/
theorem cinv_step_fs {c c' : CState} (hc : CInv c) {e : Event} (h : check c e = .ok c') :
    KInv c'.fs ∧ ∀ p i, p.final = true → some i ∈ c'.fs.may p → c'.fs.synced i = c'.fs.written i := by
  obtain ⟨hfs, hk⟩ := check_fs h
  rw [hfs]
  refine ⟨kinv_step hc.kill hk, fun p i hp hm => ?_⟩
  rcases may_step_some hc.kill.fs hm with hm | ⟨rfl, _⟩ | ⟨a, rfl, ha⟩
  · exact (sealed_step hk (hc.kill.sealed p i hp hm)).2.2 (hc.flushed p i hp hm)
  · rw [kill_create hk] at hp; cases hp
  · -- newly published: the checker demanded that the staging file was flushed
    obtain ⟨j, hj, hs, -⟩ := check_rename_final h hp
    rw [hj] at ha; cases ha; exact hs

theorem cinv_plain {c c' : CState} (hc : CInv c) {e : Event} (h : check c e = .ok c')
    (hp : c'.pending = c.pending) (hd : c'.durable = c.durable)
    (hf : ∀ p, p.final = true → (step c.fs e).vol p = c.fs.vol p ∧ (step c.fs e).may p = c.fs.may p) :
    CInv c' := by
  obtain ⟨kill', flushed'⟩ := cinv_step_fs hc h
  refine ⟨kill', flushed', fun p hp' => ?_, fun p i hpf hnp hvp => ?_, fun g hg => ?_⟩
  all_goals rw [(check_fs h).1]
  · have := hc.pend p (hp ▸ hp'); exact ⟨this.1, (hf p this.1).1 ▸ this.2⟩
  · exact (hf p hpf).2 ▸ hc.settled p i hpf (hp ▸ hnp) ((hf p hpf).1 ▸ (check_fs h).1 ▸ hvp)
  · have := hc.dur g (hd ▸ hg); exact ⟨this.1, fun b hb => this.2 b ((hf g this.1).2 ▸ hb)⟩

theorem cinv_step {c c' : CState} (hc : CInv c) {e : Event} (h : check c e = .ok c') : CInv c' := by
  obtain ⟨kill', flushed'⟩ := cinv_step_fs hc h
  obtain ⟨-, hk⟩ := check_fs h
  have pend_old : ∀ p ∈ c.pending, e ≠ .unlink p → p.final = true ∧ c'.fs.vol p ≠ none :=
    fun p hp hne => ⟨(hc.pend p hp).1, vol_check_ne_none h (hc.pend p hp).1 hne (hc.pend p hp).2⟩
  have dur_old : ∀ g ∈ c.durable, e ≠ .unlink g → g.final = true ∧ DurablyVisible c'.fs g :=
    fun g hg hne => ⟨(hc.dur g hg).1, durablyVisible_check hc h (hc.dur g hg).1 hne (hc.dur g hg).2⟩
  cases e with
  | unlink q =>
    obtain ⟨rfl, -⟩ := check_unlink h
    have ne : ∀ {p : Path}, p ≠ q → Event.unlink q ≠ .unlink p := fun hpq he => hpq (by cases he; rfl)
    refine ⟨kill', flushed', fun p hp => ?_, fun p i hpf hnp hvp => ?_, fun g hg => ?_⟩
    · simp only [List.mem_filter, decide_eq_true_eq] at hp
      exact pend_old p hp.1 (ne hp.2)
    · simp only [step_vol] at hvp
      split at hvp
      · cases hvp
      · rename_i hne
        simp only [step_may, hne, if_false]
        exact hc.settled p i hpf (fun hin => hnp (List.mem_filter.mpr ⟨hin, decide_eq_true hne⟩)) hvp
    · simp only [List.mem_filter, decide_eq_true_eq] at hg
      exact dur_old g hg.1 (ne hg.2)
  | fsyncDir d =>
    simp only [check] at h; cases h
    refine ⟨kill', flushed', fun p hp => ?_, fun p i hpf hnp hvp => ?_, fun g hg => ?_⟩
    · exact pend_old p (List.mem_filter.mp hp).1 (fun he => by cases he)
    · change c.fs.vol p = some i at hvp
      simp only [step_may]
      split
      · rw [hvp]
      · rename_i hne
        exact hc.settled p i hpf (fun hin => hnp (List.mem_filter.mpr ⟨hin, decide_eq_true hne⟩)) hvp
    · rcases List.mem_append.mp hg with hg | hg
      · -- a pending publication whose directory is flushed now
        simp only [List.mem_filter, decide_eq_true_eq] at hg
        obtain ⟨hgf, hv⟩ := hc.pend g hg.1
        refine ⟨hgf, fun b hb => ?_⟩
        simp only [step_may, hg.2.1, if_true, List.mem_singleton] at hb
        rw [hb]; exact hv
      · exact dur_old g hg (fun he => by cases he)
  | rename a b =>
    obtain ⟨ha, ⟨hb, i0, hi0, -, rfl⟩ | ⟨hb, rfl⟩⟩ := check_rename h
    · refine ⟨kill', flushed', fun p hp => ?_, fun p i hpf hnp hvp => ?_,
        fun g hg => dur_old g hg (fun he => by cases he)⟩
      · rcases List.mem_cons.mp hp with rfl | hp
        · refine ⟨hb, ?_⟩
          simp only [step_vol, if_neg (final_ne hb ha), if_true, hi0]
          exact Option.some_ne_none i0
        · exact pend_old p hp (fun he => by cases he)
      · simp only [List.mem_cons, not_or] at hnp
        simp only [step_vol, step_may, if_neg (final_ne hpf ha), if_neg hnp.1] at hvp ⊢
        exact hc.settled p i hpf hnp.2 hvp
    · refine cinv_plain hc h rfl rfl (fun p hp => ?_)
      simp only [step_vol, step_may, if_neg (final_ne hp ha), if_neg (final_ne hp hb), and_self]
  | create q =>
    have hq := kill_create hk
    have hc' : c'.pending = c.pending ∧ c'.durable = c.durable := by
      simp only [check] at h
      split at h <;> cases h
      exact ⟨rfl, rfl⟩
    refine cinv_plain hc h hc'.1 hc'.2 (fun p hp => ?_)
    simp only [step_vol, step_may, if_neg (final_ne hp hq), and_self]
  | _ =>
    -- write, truncate, fsync, close, ok: no name and no bookkeeping changes (`first`: fsync and close are accepted
    -- as they stand; for the others `check` tests a condition before)
    have hc' : c'.pending = c.pending ∧ c'.durable = c.durable := by
      simp only [check] at h
      first | (cases h; exact ⟨rfl, rfl⟩) | (split at h <;> cases h; exact ⟨rfl, rfl⟩)
    exact cinv_plain hc h hc'.1 hc'.2 (fun p _ => ⟨step_vol .., step_may ..⟩)

end Litestream.Fs
