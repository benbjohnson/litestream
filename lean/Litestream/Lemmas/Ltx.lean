import Litestream.Model.Ltx
/-! Logical LTX files and databases as functions (C06, C17, C01): what `Ltx.look`, `Db.page`, `Db.apply`,
    `latest`, `compact` and `decodeDb` compute, without their association lists. -/
namespace Litestream

theorem mem_insertU {k p : Nat} {l : List Nat} : p ∈ insertU k l ↔ p = k ∨ p ∈ l := by
  fun_induction insertU k l with
  | case1 | case2 | case3 => simp  -- `[]`, `k < x`, `k = x`
  | case4 x xs _ _ ih => simp only [List.mem_cons, ih]; exact or_left_comm  -- `x < k`

theorem mem_sortU {p : Nat} {l : List Nat} : p ∈ sortU l ↔ p ∈ l := by
  induction l with
  | nil => simp [sortU]
  | cons x xs ih => rw [show sortU (x :: xs) = insertU x (sortU xs) from rfl, mem_insertU, ih, List.mem_cons]

theorem pairwise_insertU {k : Nat} {l : List Nat} (h : l.Pairwise (· < ·)) : (insertU k l).Pairwise (· < ·) := by
  fun_induction insertU k l with
  | case1 => simp  -- `[]`
  | case2 x xs hkx =>  -- `k < x`: `k` goes in front
    exact List.pairwise_cons.mpr ⟨fun a ha => (List.mem_cons.mp ha).elim (· ▸ hkx) fun ha =>
      Nat.lt_trans hkx ((List.pairwise_cons.mp h).1 a ha), h⟩
  | case3 => exact h  -- `k = x`: nothing is inserted
  | case4 x xs _ _ ih =>  -- `x < k`: `k` goes into the tail
    have hx := List.pairwise_cons.mp h
    refine List.pairwise_cons.mpr ⟨fun a ha => ?_, ih hx.2⟩
    rcases mem_insertU.mp ha with rfl | ha
    · omega
    · exact hx.1 a ha

theorem pairwise_sortU (l : List Nat) : (sortU l).Pairwise (· < ·) := by
  induction l with
  | nil => exact List.Pairwise.nil
  | cons x xs ih => exact pairwise_insertU ih

theorem ascending_of_pairwise : ∀ {l : List Nat}, l.Pairwise (· < ·) → ascending l = true
  | [], _ => rfl
  | [_], _ => rfl
  | a :: b :: t, h => by
    rw [List.pairwise_cons] at h
    simp only [ascending, Bool.and_eq_true, decide_eq_true_eq]
    exact ⟨h.1 b List.mem_cons_self, ascending_of_pairwise h.2⟩

theorem lookup_isSome_iff_mem_keys {l : List (Nat × Tok)} {p : Nat} : (l.lookup p).isSome ↔ p ∈ l.map (·.1) := by
  simp only [List.lookup_isSome_iff, beq_iff_eq, List.mem_map]
  exact ⟨fun ⟨x, hx, e⟩ => ⟨x, hx, e.symm⟩, fun ⟨x, hx, e⟩ => ⟨x, hx, e.symm⟩⟩

theorem lookup_tabulate (ks : List Nat) (g : Nat → Option Tok) (p : Nat) :
    (tabulate ks g).lookup p = if p ∈ ks then g p else none := by
  induction ks with
  | nil => rfl
  | cons k ks ih =>
    simp only [tabulate, List.filterMap_cons] at ih ⊢
    by_cases hpk : p = k
    · subst hpk; cases hg : g p <;> simp [ih, hg]
    · cases g k <;> simp [ih, hpk, List.lookup_cons, beq_false_of_ne hpk]

theorem lookup_tabulate_of_support {ks : List Nat} {g : Nat → Option Tok} {p : Nat} (h : p ∉ ks → g p = none) :
    (tabulate ks g).lookup p = g p := by
  rw [lookup_tabulate]
  split
  · rfl
  next hn => exact (h hn).symm

theorem lookup_map_self (g : Nat → Tok) (l : List Nat) (k : Nat) :
    (l.map (fun p => (p, g p))).lookup k = if k ∈ l then some (g k) else none := by
  rw [← lookup_tabulate l fun p => some (g p), tabulate]
  simp only [Option.map_some, List.filterMap_eq_map']

theorem look_isSome_iff {f : Ltx} {p : Nat} : (f.look p).isSome ↔ p ∈ f.keys := lookup_isSome_iff_mem_keys

theorem look_eq_none_of_not_mem {f : Ltx} {p : Nat} (h : p ∉ f.keys) : f.look p = none := by
  rw [← Option.not_isSome_iff_eq_none, look_isSome_iff]; exact h

theorem Db.page_of_size_lt {d : Db} {p : Nat} (h : d.size < p) : d.page p = 0 := if_neg (by omega)

theorem Db.page_of_not_mem_keys {d : Db} {p : Nat} (h : p ∉ d.pages.map (·.1)) : d.page p = 0 := by
  unfold Db.page
  rw [Option.not_isSome_iff_eq_none.mp (mt lookup_isSome_iff_mem_keys.mp h)]
  exact ite_self 0

theorem empty_page (p : Nat) : Db.empty.page p = 0 := by
  unfold Db.page Db.empty; simp

@[simp] theorem apply_size (d : Db) (f : Ltx) : (d.apply f).size = f.commit := rfl

theorem apply_page (d : Db) (f : Ltx) (p : Nat) :
    (d.apply f).page p = if p ≤ f.commit then (f.look p).getD (d.page p) else 0 := by
  show (if p ≤ f.commit then ((tabulate _ _).lookup p).getD 0 else 0) = _
  split
  next hp =>
    rw [lookup_tabulate_of_support, if_pos hp]
    · cases f.look p with
      | some t => rfl
      | none => by_cases hz : d.page p = 0 <;> simp [hz]
    · -- the key list of the new table holds every page of the file and every non-zero page of `d`
      intro hn
      rw [mem_sortU, List.mem_append, not_or] at hn
      rw [if_pos hp, look_eq_none_of_not_mem hn.1, Db.page_of_not_mem_keys hn.2]
      rfl
  · rfl

/-- Weaker than `=`: an association list may or may not hold a zero page explicitly. -/
def Db.Same (a b : Db) : Prop := a.size = b.size ∧ ∀ p, a.page p = b.page p

theorem Db.Same.refl (a : Db) : a.Same a := ⟨rfl, fun _ => rfl⟩
theorem Db.Same.symm {a b : Db} (h : a.Same b) : b.Same a := ⟨h.1.symm, fun p => (h.2 p).symm⟩
theorem Db.Same.trans {a b c : Db} (h1 : a.Same b) (h2 : b.Same c) : a.Same c :=
  ⟨h1.1.trans h2.1, fun p => (h1.2 p).trans (h2.2 p)⟩

theorem apply_congr {a b : Db} (h : a.Same b) (f : Ltx) : (a.apply f).Same (b.apply f) :=
  ⟨rfl, fun p => by rw [apply_page, apply_page, h.2 p]⟩

theorem applyAll_congr {a b : Db} (h : a.Same b) (fs : List Ltx) : (applyAll a fs).Same (applyAll b fs) := by
  induction fs generalizing a b with
  | nil => exact h
  | cons f fs ih => exact ih (apply_congr h f)

theorem applyAll_eq_foldl (d : Db) (fs : List Ltx) : applyAll d fs = fs.foldl Db.apply d := by
  induction fs generalizing d with
  | nil => rfl
  | cons f fs ih => exact ih (d.apply f)

theorem applyAll_append (d : Db) (xs ys : List Ltx) : applyAll d (xs ++ ys) = applyAll (applyAll d xs) ys := by
  simp only [applyAll_eq_foldl, List.foldl_append]

theorem applyAll_size (d : Db) (f : Ltx) (rest : List Ltx) : (applyAll d (f :: rest)).size = (lastOf f rest).commit := by
  induction rest generalizing f d with
  | nil => rfl
  | cons g t ih => exact ih (d.apply f) g

/-- Both clauses are enforced by `Encoder.EncodePage`. -/
def PagesOk (lock : Nat) (f : Ltx) : Prop :=
  (∀ p t, f.look p = some t → p ≤ f.commit) ∧ f.look lock = none

theorem PagesOk.look_of_commit_lt {lock : Nat} {f : Ltx} (h : PagesOk lock f) {p : Nat} (hp : f.commit < p) :
    f.look p = none := by
  cases hl : f.look p with
  | none => rfl
  | some t => exact absurd (h.1 p t hl) (by omega)

theorem pagesOk_of_wf {lock : Nat} {f : Ltx} (h : f.wf lock = true) : PagesOk lock f := by
  unfold Ltx.wf at h
  simp only [Bool.and_eq_true, List.all_eq_true, decide_eq_true_eq] at h
  obtain ⟨⟨_, hall⟩, _⟩ := h
  exact ⟨fun p t hp => (hall p (look_isSome_iff.mp (by simp [hp]))).1.2,
    look_eq_none_of_not_mem fun hm => (hall lock hm).2 rfl⟩

theorem apply_lock_zero {lock : Nat} {d : Db} {f : Ltx} (hf : f.look lock = none) (hd : d.page lock = 0) :
    (d.apply f).page lock = 0 := by
  rw [apply_page, hf]; split
  · exact hd
  · rfl

theorem applyAll_lock_zero {lock : Nat} {fs : List Ltx} {d : Db} (hok : ∀ x ∈ fs, PagesOk lock x)
    (hd : d.page lock = 0) : (applyAll d fs).page lock = 0 := by
  induction fs generalizing d with
  | nil => exact hd
  | cons f fs ih =>
    exact ih (fun x hx => hok x (List.mem_cons_of_mem _ hx)) (apply_lock_zero (hok f List.mem_cons_self).2 hd)

theorem mem_snapshotPgnos {lock size p : Nat} : p ∈ snapshotPgnos lock size ↔ 1 ≤ p ∧ p ≤ size ∧ p ≠ lock := by
  simp only [snapshotPgnos, List.mem_filter, List.mem_range'_1, decide_eq_true_eq]
  omega

/-- Stated for the raw constructor so that `Sy.snapFile` and `C01.assembledSnapshot` are both instances. -/
theorem look_snapshotShape (lock a b c ts : Nat) (g : Nat → Tok) (p : Nat) :
    (Ltx.mk a b c ts ((snapshotPgnos lock c).map fun p => (p, g p))).look p =
      if 1 ≤ p ∧ p ≤ c ∧ p ≠ lock then some (g p) else none := by
  show List.lookup p _ = _
  rw [lookup_map_self]; simp only [mem_snapshotPgnos]

theorem pagesOk_snapshotShape (lock a b c ts : Nat) (g : Nat → Tok) :
    PagesOk lock (Ltx.mk a b c ts ((snapshotPgnos lock c).map fun p => (p, g p))) := by
  constructor
  · intro p t h
    rw [look_snapshotShape] at h
    split at h
    next hc => exact hc.2.1
    · cases h
  · rw [look_snapshotShape]; exact if_neg fun h => h.2.2 rfl

theorem decodeDb_eq_ok_iff {lock : Nat} {f : Ltx} {img : Db} :
    decodeDb lock f = .ok img ↔ f.minTx = 1 ∧ f.keys = snapshotPgnos lock f.commit ∧ img = ⟨f.commit, f.pages⟩ := by
  unfold decodeDb
  split
  · simp [*]  -- not a snapshot
  · split <;> simp_all [eq_comm]  -- the page numbers are the expected ones, or not

theorem decode_same_apply {lock : Nat} {f : Ltx} {img : Db} (h : decodeDb lock f = .ok img) :
    img.Same (Db.empty.apply f) := by
  obtain ⟨_, _, rfl⟩ := decodeDb_eq_ok_iff.mp h
  exact ⟨rfl, fun p => by rw [apply_page, empty_page]; rfl⟩

theorem latest_cons (f : Ltx) (fs : List Ltx) (p : Nat) : latest (f :: fs) p = (latest fs p).or (f.look p) := by
  rw [latest]; cases latest fs p <;> rfl

theorem latest_append (a b : List Ltx) (p : Nat) : latest (a ++ b) p = (latest b p).or (latest a p) := by
  induction a with
  | nil => exact Option.or_none.symm
  | cons f r ih => rw [List.cons_append, latest_cons, ih, latest_cons, Option.or_assoc]

theorem latest_eq_none_iff {fs : List Ltx} {p : Nat} : latest fs p = none ↔ ∀ f ∈ fs, f.look p = none := by
  induction fs with
  | nil => simp [latest]
  | cons f fs ih => rw [latest_cons, Option.or_eq_none_iff, ih, List.forall_mem_cons, and_comm]

theorem mem_allKeys {fs : List Ltx} {p : Nat} : p ∈ allKeys fs ↔ ∃ f ∈ fs, p ∈ f.keys := by
  unfold allKeys; rw [mem_sortU]; simp [List.mem_flatMap]

theorem mergedPages_lookup (fs : List Ltx) (c p : Nat) :
    (mergedPages fs c).lookup p = if p ≤ c then latest fs p else none := by
  refine lookup_tabulate_of_support fun hn => ?_
  rw [latest_eq_none_iff.mpr fun f hf => look_eq_none_of_not_mem fun hk => hn (mem_allKeys.mpr ⟨f, hf, hk⟩)]
  exact ite_self _

structure CompactOk (fs : List Ltx) (g : Ltx) : Prop where
  ne : fs ≠ []
  minTx : ∀ f rest, fs = f :: rest → g.minTx = f.minTx
  lastEq : ∀ f rest, fs = f :: rest → g.maxTx = (lastOf f rest).maxTx ∧ g.commit = (lastOf f rest).commit ∧ g.ts = (lastOf f rest).ts
  contig : ∀ f rest, fs = f :: rest → contigFrom f rest = true
  look : ∀ p, g.look p = if p ≤ g.commit then latest fs p else none

theorem compact_ok {lock : Nat} {fs : List Ltx} {g : Ltx} (h : compact lock fs = .ok g) : CompactOk fs g := by
  cases fs with
  | nil => cases h
  | cons f rest =>
    rw [compact] at h
    split at h
    · cases h  -- not contiguous
    next hc =>
      dsimp only at h
      split at h
      · cases h  -- the encoder refuses a page
      · cases h
        exact ⟨List.cons_ne_nil _ _, fun _ _ he => by cases he; rfl, fun _ _ he => by cases he; exact ⟨rfl, rfl, rfl⟩,
          fun _ _ he => by cases he; simpa using hc, mergedPages_lookup _ _⟩

theorem compact_commit {lock : Nat} {fs : List Ltx} {g : Ltx} (hc : compact lock fs = .ok g) (d : Db) :
    g.commit = (applyAll d fs).size := by
  have ok := compact_ok hc
  cases fs with
  | nil => exact absurd rfl ok.ne
  | cons f r => rw [applyAll_size]; exact (ok.lastEq f r rfl).2.1

/-- `a` is arbitrary (`s2 ≠ []`, so `lastOf` never returns it): callers pass the anchor of their `growthFrom`. -/
theorem compact_commit_lastOf {lock : Nat} {s1 s2 : List Ltx} {g : Ltx} (hc : compact lock (s1 ++ s2) = .ok g)
    (hne : s2 ≠ []) (a : Ltx) : g.commit = (lastOf a s2).commit := by
  cases s2 with
  | nil => exact absurd rfl hne
  | cons h t => rw [compact_commit hc Db.empty, applyAll_append, applyAll_size]; rfl

theorem compact_pagesOk {lock : Nat} {fs : List Ltx} {g : Ltx} (hc : compact lock fs = .ok g)
    (hok : ∀ x ∈ fs, PagesOk lock x) : PagesOk lock g := by
  have hl := (compact_ok hc).look
  constructor
  · intro p t hp
    rw [hl] at hp
    split at hp
    · assumption
    · cases hp
  · rw [hl]; split
    · exact latest_eq_none_iff.mpr fun x hx => (hok x hx).2
    · rfl

end Litestream
