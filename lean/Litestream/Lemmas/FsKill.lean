import Litestream.Lemmas.Fs
import Litestream.Model.Recover
/-! Kill semantics (C03, and the base of C11): what the kill rules `killCheck` guarantee at every instant.
    An inode reachable only through final names (`Sealed`) is never written again, so it is complete; and
    whatever a final name shows is such an inode (`KInv`). `recover` (Model/Recover.lean) reads such names only. -/
namespace Litestream.Fs

theorem kill_create {p : Path} (h : killCheck (.create p) = none) : p.final = false := by simpa [killCheck] using h
theorem kill_write {p : Path} (h : killCheck (.write p) = none) : p.final = false := by simpa [killCheck] using h
theorem kill_truncate {p : Path} (h : killCheck (.truncate p) = none) : p.final = false := by simpa [killCheck] using h
theorem kill_rename {a b : Path} (h : killCheck (.rename a b) = none) : a.final = false := by simpa [killCheck] using h

theorem final_ne {p q : Path} (hp : p.final = true) (hq : q.final = false) : p ≠ q := by
  intro e; subst e; simp [hp] at hq

structure Sealed (s : State) (i : Nat) : Prop where
  /-- allocated, so that no later `create` hands the inode out again under a staging name -/
  alloc : i < s.next
  final : ∀ p, s.vol p = some i → p.final = true

theorem Sealed.not_staging {s : State} {i : Nat} (hs : Sealed s i) {p : Path} (hp : p.final = false) :
    s.vol p ≠ some i := fun h => by have := hs.final p h; rw [hp] at this; cases this

/-- The last conjunct is for the flush rules (`cinv_step_fs`). -/
theorem sealed_step {s : State} {e : Event} (hk : killCheck e = none) {i : Nat} (hs : Sealed s i) :
    Sealed (step s e) i ∧ (step s e).written i = s.written i ∧
      (s.synced i = s.written i → (step s e).synced i = (step s e).written i) := by
  have hne : i ≠ s.next := Nat.ne_of_lt hs.alloc
  have hw : (step s e).written i = s.written i := by
    rw [step_written]
    split
    · rw [if_neg hne]
    · rw [if_neg (hs.not_staging (kill_write hk))]
    · rw [if_neg (hs.not_staging (kill_truncate hk))]
    · rfl
  refine ⟨⟨Nat.lt_of_lt_of_le hs.alloc (step_next_le s e), fun q hq => ?_⟩, hw, fun hf => ?_⟩
  · rcases vol_step_some hq with h | ⟨_, h⟩ | ⟨a, rfl, ha⟩
    · exact hs.final q h
    · exact absurd h hne
    · exact absurd ha (hs.not_staging (kill_rename hk))
  · rw [hw, step_synced]
    split
    · rw [if_neg hne]; exact hf
    · split
      · rfl
      · exact hf
    · exact hf

theorem rename_sealed {s : State} (h : FsInv s) {a b : Path} {i : Nat} (ha : s.vol a = some i)
    (hb : b.final = true) : Sealed (step s (.rename a b)) i :=
  ⟨Nat.lt_of_lt_of_le (h.allocV ha) (step_next_le _ _), fun _ hq => vol_step_new h (.inr ⟨a, rfl, ha⟩) hq ▸ hb⟩

/-- Stated for `may`, which contains `vol` (`sealV`), so that the invariant of the flush rules can extend it. -/
structure KInv (s : State) : Prop where
  fs : FsInv s
  sealed : ∀ p i, p.final = true → some i ∈ s.may p → Sealed s i

theorem KInv.sealV {s : State} (h : KInv s) {p : Path} {i : Nat} (hp : p.final = true) (hv : s.vol p = some i) :
    Sealed s i := h.sealed p i hp (hv ▸ h.fs.volMay p)

theorem kinv_init : KInv init := ⟨fsInv_init, fun p i _ h => by simp [init] at h⟩

theorem kinv_step {s : State} (h : KInv s) {e : Event} (hk : killCheck e = none) : KInv (step s e) := by
  refine ⟨fsInv_step h.fs e, fun p i hp hm => ?_⟩
  rcases may_step_some h.fs hm with hm | ⟨rfl, _⟩ | ⟨a, rfl, ha⟩
  · exact (sealed_step hk (h.sealed p i hp hm)).1
  · rw [kill_create hk] at hp; cases hp
  · exact rename_sealed h.fs ha hp

@[simp] theorem killOK_cons (e : Event) (es : List Event) :
    killOK (e :: es) = true ↔ killCheck e = none ∧ killOK es = true := by
  simp [killOK]

theorem killOK_append {xs ys : List Event} : killOK (xs ++ ys) = true ↔ killOK xs = true ∧ killOK ys = true := by
  simp [killOK]

theorem killOK_take {tr : List Event} (h : killOK tr = true) (k : Nat) : killOK (tr.take k) = true :=
  (killOK_append.mp (by rwa [List.take_append_drop])).1

theorem killOK_drop {tr : List Event} (h : killOK tr = true) (k : Nat) : killOK (tr.drop k) = true :=
  (killOK_append.mp (by rwa [List.take_append_drop])).2

theorem kinv_run {s : State} (hs : KInv s) {tr : List Event} (h : killOK tr = true) : KInv (tr.foldl step s) := by
  induction tr generalizing s with
  | nil => exact hs
  | cons e es ih => rw [killOK_cons] at h; exact ih (kinv_step hs h.1) h.2

theorem sealed_run {s : State} {tr : List Event} (h : killOK tr = true) {i : Nat} (hs : Sealed s i) :
    (tr.foldl step s).written i = s.written i := by
  induction tr generalizing s with
  | nil => rfl
  | cons e es ih =>
    rw [killOK_cons] at h
    have := sealed_step h.1 hs
    rw [List.foldl_cons, ih h.2 this.1, this.2.1]

theorem sealed_complete {tr : List Event} (h : killOK tr = true) (k : Nat) {i : Nat}
    (hs : Sealed (killState tr k) i) : Complete tr i ((killState tr k).written i) := by
  rw [Complete, run_eq_foldl_drop tr k]
  exact (sealed_run (killOK_drop h k) hs).symm

theorem kinv_killState {tr : List Event} (h : killOK tr = true) (k : Nat) : KInv (killState tr k) :=
  kinv_run kinv_init (killOK_take h k)

theorem removeTmp_spec (names : List Path) (s : State) :
    (∀ p, (removeTmp names s).vol p = if p ∈ names ∧ p.final = false ∧ p.tree = 0 then none else s.vol p) ∧
      (removeTmp names s).written = s.written := by
  induction names generalizing s with
  | nil => exact ⟨fun p => by simp [removeTmp], rfl⟩
  | cons q qs ih =>
    obtain ⟨ihv, ihw⟩ := ih (if !q.final && q.tree == 0 then step s (.unlink q) else s)
    refine ⟨fun p => (ihv p).trans ?_, ihw.trans (by split <;> rfl)⟩
    by_cases hpq : p = q
    · subst hpq
      by_cases hp : p.final = false ∧ p.tree = 0 <;> simp [hp, step_vol]
    · by_cases hq : q.final = false ∧ q.tree = 0 <;> simp [hq, hpq, step_vol]

theorem topOf_none {ps : List Path} (h : topOf ps = none) : ps = [] := by
  fun_induction topOf ps with
  | case1 => rfl  -- `[]`
  | _ => cases h

theorem topOf_some {ps : List Path} {q : Path} (h : topOf ps = some q) : q ∈ ps ∧ ∀ p ∈ ps, p.max ≤ q.max := by
  fun_induction topOf ps generalizing q with
  | case1 => cases h  -- `[]`
  | case2 a as h0 => cases h; rw [topOf_none h0]; simp  -- `[a]`
  | case3 a as q' hq' hle ih =>  -- the head wins
    cases h
    exact ⟨List.mem_cons_self,
      List.forall_mem_cons.mpr ⟨Nat.le_refl _, fun p hp => Nat.le_trans ((ih hq').2 p hp) hle⟩⟩
  | case4 a as q' hq' hlt ih =>  -- the tail's top wins
    cases h
    exact ⟨List.mem_cons_of_mem _ (ih hq').1, List.forall_mem_cons.mpr ⟨Nat.le_of_not_le hlt, (ih hq').2⟩⟩

theorem mem_localLtx {names : List Path} {s : State} {p : Path} :
    p ∈ localLtx names s ↔ p ∈ names ∧ p.final = true ∧ p.tree = 0 ∧ 0 < p.max ∧ s.vol p ≠ none := by
  simp [localLtx, and_assoc, Option.isSome_iff_ne_none]

theorem recover_ok (names : List Path) (total : Nat → Nat) (s : State)
    (hver : ∀ p i, p.final = true → (removeTmp names s).vol p = some i → (removeTmp names s).written i = total i) :
    ∃ pos, recover names total s = .ok (removeTmp names s, pos) ∧
      ∀ p ∈ localLtx names (removeTmp names s), p.max ≤ pos := by
  unfold recover
  simp only
  cases h : topOf (localLtx names (removeTmp names s)) with
  | none => exact ⟨0, rfl, fun p hp => by rw [topOf_none h] at hp; cases hp⟩
  | some q =>
    obtain ⟨hmem, hmax⟩ := topOf_some h
    obtain ⟨-, hf, -, -, hv⟩ := mem_localLtx.mp hmem
    obtain ⟨i, hi⟩ := Option.ne_none_iff_exists'.mp hv
    exact ⟨q.max, by simp [hi, hver q i hf hi], hmax⟩

end Litestream.Fs
