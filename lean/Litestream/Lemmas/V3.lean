import Litestream.Model.V3
import Litestream.Lemmas.List
/-! Lemmas for C19 about `Model/V3.lean`: the exchange sort permutes and sorts; both backward scans are
`(l.filter p).getLast?`; the segment loop succeeds exactly on contiguous lists; `maxTime` is a supremum. -/
namespace Litestream.V3

theorem sweep_perm (x : Snap) (l : List Snap) : ((sweep x l).1 :: (sweep x l).2).Perm (x :: l) := by
  induction l generalizing x with
  | nil => exact .refl _
  | cons y ys ih =>
    simp only [sweep]
    split
    · exact (List.Perm.swap ..).trans ((ih y).cons x)
    · exact (List.Perm.swap ..).trans (((ih x).cons y).trans (.swap ..))

theorem sweep_min (x : Snap) (l : List Snap) : ∀ a ∈ x :: l, (sweep x l).1.created ≤ a.created := by
  induction l generalizing x with
  | nil => simp [sweep]
  | cons y ys ih =>
    simp only [sweep, List.forall_mem_cons] at ih ⊢
    split
    · next h => have := ih y; dsimp only; exact ⟨by omega, this⟩
    · next h => have := ih x; dsimp only; exact ⟨this.1, by omega, this.2⟩

theorem exSortN_spec (n : Nat) (l : List Snap) (h : l.length ≤ n) :
    (exSortN n l).Perm l ∧ (exSortN n l).Pairwise (fun a b => a.created ≤ b.created) := by
  induction n generalizing l with
  | zero => rw [List.length_eq_zero_iff.1 (Nat.le_zero.1 h)]; exact ⟨.refl _, .nil⟩
  | succ n ih =>
    cases l with
    | nil => exact ⟨.refl _, .nil⟩
    | cons x xs =>
      have hp := sweep_perm x xs
      have hl : (sweep x xs).2.length ≤ n := by
        have := hp.length_eq
        simp only [List.length_cons] at this h
        omega
      obtain ⟨ihp, ihs⟩ := ih _ hl
      refine ⟨(ihp.cons _).trans hp, List.pairwise_cons.2 ⟨fun a ha => ?_, ihs⟩⟩
      exact sweep_min x xs a (hp.subset (List.mem_cons_of_mem _ (ihp.subset ha)))

theorem exSort_perm (l : List Snap) : (exSort l).Perm l := (exSortN_spec _ _ (Nat.le_refl _)).1
theorem exSort_mem {l : List Snap} {a : Snap} : a ∈ exSort l ↔ a ∈ l := (exSort_perm l).mem_iff
theorem exSort_sorted (l : List Snap) : (exSort l).Pairwise (fun a b => a.created ≤ b.created) :=
  (exSortN_spec _ _ (Nat.le_refl _)).2

theorem lastSat_eq (p : Snap → Bool) (l : List Snap) : lastSat p l = (l.filter p).getLast? := by
  induction l with
  | nil => rfl
  | cons x xs ih =>
    rw [lastSat, ih, List.filter_cons]
    cases hl : (xs.filter p).getLast? <;> cases hp : p x <;> simp [hl, List.getLast?_cons]

theorem lastBefore_eq (T : Nat) (l : List Nat) : lastBefore T l = (l.filter fun x => decide (x < T)).getLast? := by
  induction l with
  | nil => rfl
  | cons x xs ih =>
    rw [lastBefore, ih, List.filter_cons]
    cases hl : (xs.filter fun x => decide (x < T)).getLast? <;> by_cases hp : x < T <;> simp [hl, hp, List.getLast?_cons]

def SortedN : List Nat → Prop
  | [] => True
  | x :: xs => (∀ a ∈ xs, x ≤ a) ∧ SortedN xs

theorem sortedN_iff (l : List Nat) : SortedN l ↔ l.Pairwise (· ≤ ·) := by
  induction l with
  | nil => simp [SortedN]
  | cons x xs ih => simp [SortedN, ih]

/-- About every result of `lastBefore`, not by cases on it: `C19.arbitrate_at` rewrites with it from right to left. -/
theorem lastBefore_lt_iff {T c : Nat} {l : List Nat} (hs : SortedN l) :
    (∀ m, lastBefore T l = some m → m < c) ↔ ∀ u ∈ l, u < T → u < c := by
  rw [lastBefore_eq]
  cases h : (l.filter fun x => decide (x < T)).getLast? with
  | none =>
    simp only [List.getLast?_eq_none_iff, List.filter_eq_nil_iff, decide_eq_true_eq] at h
    exact ⟨fun _ u hu hut => absurd hut (h u hu), fun _ m hm => nomatch hm⟩
  | some m =>
    obtain ⟨hm, hlt, hmax⟩ := getLast?_filter_eq_some ((sortedN_iff _).1 hs) h
    simp only [decide_eq_true_eq, Option.some.injEq, forall_eq'] at hlt hmax ⊢
    refine ⟨fun h u hu hut => ?_, fun h => h m hm hlt⟩
    rcases hmax u hu hut with rfl | hle
    · exact h
    · exact Nat.lt_of_le_of_lt hle h

/-- `hg`: the WAL file being rebuilt (if any) is the one before the expected index. No hypothesis on the segments
since the repair of F10. -/
theorem okB_applyLoop (segs : List Seg) (st : AState)
    (hg : ∀ g, st.groups.head? = some g → g.1 + 1 = st.expected) :
    okB (applyLoop st segs) = contigB st.expected (st.groups.head?.map fun g => (g.1, st.offset)) segs := by
  induction segs generalizing st with
  | nil => rfl
  | cons b rest ih =>
    -- `applyStep` and `contigB` make the same tests; where the step succeeds, `ih` at the state it returns
    simp only [applyLoop, applyStep, contigB]
    by_cases h0 : b.offset = 0
    · by_cases hi : b.index = st.expected
      · simpa [h0, hi] using ih ⟨st.expected + 1, b.size, (st.expected, [b]) :: st.groups⟩ (by simp)
      · simp [h0, hi, okB]
    · simp only [h0, if_false]
      cases hgr : st.groups with
      | nil => by_cases hx : b.index + 1 = st.expected <;> by_cases ho : b.offset = st.offset <;> simp [hx, ho, okB]
      | cons g gs =>
        have hie : g.1 + 1 = st.expected := hg g (by simp [hgr])
        by_cases hx : b.index + 1 = st.expected
        · have hidx : b.index = g.1 := by omega
          by_cases ho : b.offset = st.offset
          · simpa [hie, ho, hidx] using
              ih ⟨st.expected, st.offset + b.size, (g.1, b :: g.2) :: gs⟩ (by simp [hie])
          · simp [hie, ho, okB, hidx]
        · have hidx : b.index ≠ g.1 := by omega
          simp [hx, okB, hidx]

theorem okB_applySegs (idx : Nat) (segs : List Seg) : okB (applySegs idx segs) = contigB idx none segs := by
  have h : okB (applyLoop ⟨idx, 0, []⟩ segs) = contigB idx none segs := okB_applyLoop segs ⟨idx, 0, []⟩ (by simp)
  rw [← h, applySegs]
  cases applyLoop ⟨idx, 0, []⟩ segs <;> rfl

theorem maxTime_le_iff {l : List Nat} {m : Nat} : maxTime l ≤ m ↔ ∀ u ∈ l, u ≤ m :=
  (foldl_sup_le_iff (g := id) (fun _ _ _ => Nat.max_le) l 0 m).trans (and_iff_right (Nat.zero_le m))

theorem maxTime_append (l₁ l₂ : List Nat) : maxTime (l₁ ++ l₂) = max (maxTime l₁) (maxTime l₂) := by
  -- both sides have the same upper bounds
  have h : ∀ c, maxTime (l₁ ++ l₂) ≤ c ↔ max (maxTime l₁) (maxTime l₂) ≤ c := fun c => by
    simp only [maxTime_le_iff, Nat.max_le, List.mem_append, or_imp, forall_and]
  exact Nat.le_antisymm ((h _).2 (Nat.le_refl _)) ((h _).1 (Nat.le_refl _))

theorem lt_maxTime_iff {l : List Nat} {m : Nat} : m < maxTime l ↔ ∃ t ∈ l, m < t := by
  rw [← Nat.not_le, maxTime_le_iff]; simp

theorem maxTime_lt_iff {l : List Nat} {t : Nat} (ht : 0 < t) : maxTime l < t ↔ ∀ u ∈ l, u < t := by
  cases t with
  | zero => cases ht
  | succ t => simp only [Nat.lt_succ_iff, maxTime_le_iff]

theorem maxTime_eq_zero_iff {l : List Nat} : maxTime l = 0 ↔ ∀ u ∈ l, u = 0 := by
  simp only [← Nat.le_zero, maxTime_le_iff]

def v3Times (snaps : List Snap) (segs : List Seg) : List Nat := snaps.map (·.created) ++ segs.map (·.created)

theorem v3UpdatedAt_eq (snaps : List Snap) (segs : List Seg) : v3UpdatedAt snaps segs = maxTime (v3Times snaps segs) :=
  (maxTime_append _ _).symm

end Litestream.V3
