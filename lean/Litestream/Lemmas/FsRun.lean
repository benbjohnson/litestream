import Litestream.Lemmas.FsCheck
/-! Accepted runs of the checker (C11): the invariant along a run, splitting a history at a crash point, and
    what stays durably visible. -/
namespace Litestream.Fs

/-- `checkFrom` without the position it reports on rejection. -/
inductive Accepts : CState → List Event → CState → Prop
  | nil (c : CState) : Accepts c [] c
  | cons {c c1 c' : CState} {e : Event} {es : List Event} :
      check c e = .ok c1 → Accepts c1 es c' → Accepts c (e :: es) c'

theorem checkFrom_ok_iff {c c' : CState} {n : Nat} {xs : List Event} :
    checkFrom c n xs = .ok c' ↔ Accepts c xs c' := by
  fun_induction checkFrom c n xs with
  | case1 c n => exact ⟨fun h => by cases h; exact .nil _, fun h => by cases h; rfl⟩  -- `[]`
  | case2 c n e es c1 h1 ih =>  -- `e` accepted
    refine ih.trans ⟨.cons h1, fun h => ?_⟩
    cases h with | cons h1' h2 => rw [h1] at h1'; cases h1'; exact h2
  | case3 c n e es r h1 =>  -- `e` rejected
    refine ⟨nofun, fun h => ?_⟩
    cases h with | cons h1' _ => rw [h1] at h1'; cases h1'

theorem flushOK_iff {tr : List Event} : flushOK tr = true ↔ ∃ c, Accepts cinit tr c := by
  unfold flushOK judge
  constructor
  · intro h; split at h
    · exact ⟨_, checkFrom_ok_iff.mp ‹_›⟩
    · cases h
  · intro ⟨c, h⟩; rw [checkFrom_ok_iff.mpr h]

theorem accepts_append {c c' : CState} {xs ys : List Event} :
    Accepts c (xs ++ ys) c' ↔ ∃ cm, Accepts c xs cm ∧ Accepts cm ys c' := by
  induction xs generalizing c with
  | nil => exact ⟨fun h => ⟨c, .nil c, h⟩, fun ⟨_, h1, h2⟩ => by cases h1; exact h2⟩
  | cons e es ih =>
    constructor
    · intro h; cases h with | cons h1 h2 =>
      obtain ⟨cm, h3, h4⟩ := ih.mp h2
      exact ⟨cm, .cons h1 h3, h4⟩
    · intro ⟨cm, h1, h2⟩; cases h1 with | cons h1 h3 => exact .cons h1 (ih.mpr ⟨cm, h3, h2⟩)

theorem Accepts.cinv {c c' : CState} {xs : List Event} (h : Accepts c xs c') (hc : CInv c) :
    CInv c' ∧ c'.fs = xs.foldl step c.fs ∧ killOK xs = true := by
  induction h with
  | nil c => exact ⟨hc, rfl, rfl⟩
  | cons h1 _ ih =>
    obtain ⟨a, b, d⟩ := ih (cinv_step hc h1)
    obtain ⟨hfs, hk⟩ := check_fs h1
    exact ⟨a, by rw [b, hfs]; rfl, by rw [killOK_cons]; exact ⟨hk, d⟩⟩

theorem flushOK_killOK {tr : List Event} (h : flushOK tr = true) : killOK tr = true := by
  obtain ⟨c, hc⟩ := flushOK_iff.mp h
  exact (hc.cinv cinv_init).2.2

/-- `pd`, `du` (`pd'`, `du'`): the checker's bookkeeping after `pre` (after `pre ++ mid`), whatever the run made it. -/
theorem flushOK_split {pre mid post : List Event} (h : flushOK (pre ++ mid ++ post) = true) :
    ∃ pd du pd' du', CInv ⟨run pre, pd, du⟩ ∧ Accepts ⟨run pre, pd, du⟩ mid ⟨run (pre ++ mid), pd', du'⟩ := by
  obtain ⟨c', hc'⟩ := flushOK_iff.mp h
  obtain ⟨⟨_, pd', du'⟩, h1, -⟩ := accepts_append.mp hc'
  obtain ⟨⟨_, pd, du⟩, h0, hmid⟩ := accepts_append.mp h1
  obtain ⟨hc, rfl, -⟩ := h0.cinv cinv_init
  obtain ⟨-, rfl, -⟩ := hmid.cinv hc
  exact ⟨pd, du, pd', du', hc, run_append pre mid ▸ hmid⟩

theorem flushOK_cinv {tr : List Event} (h : flushOK tr = true) (k : Nat) : ∃ pd du, CInv ⟨run (tr.take k), pd, du⟩ := by
  obtain ⟨pd, du, -, -, hc, -⟩ := flushOK_split (pre := tr.take k) (mid := []) (post := tr.drop k) (by simpa using h)
  exact ⟨pd, du, hc⟩

theorem durablyVisible_of_may {s : State} {p : Path} {i : Nat} (h : s.may p = [some i]) : DurablyVisible s p :=
  fun b hb => by rw [h, List.mem_singleton] at hb; rw [hb]; simp

/-- `g` supersedes-or-equals `f` (reflexive, transitive closure of what `covers` demands; `0 < g.max`, which
    `covers` demands too, travels beside it in `cover_step` and `cover_run`). -/
def Supersedes (g f : Path) : Prop :=
  g.final = true ∧ g.min ≤ f.min ∧ f.max ≤ g.max ∧ (g.tree = 1 ∨ g.tree = f.tree)

theorem supersedes_refl {f : Path} (h : f.final = true) : Supersedes f f :=
  ⟨h, Nat.le_refl _, Nat.le_refl _, Or.inr rfl⟩

theorem supersedes_trans {a b c : Path} (h1 : Supersedes a b) (h2 : Supersedes b c) : Supersedes a c := by
  refine ⟨h1.1, Nat.le_trans h1.2.1 h2.2.1, Nat.le_trans h2.2.2.1 h1.2.2.1, ?_⟩
  rcases h1.2.2.2 with h | h
  · exact Or.inl h
  · rcases h2.2.2.2 with h' | h'
    · exact Or.inl (by rw [h, h'])
    · exact Or.inr (by rw [h, h'])

theorem covers_iff {g f : Path} : covers g f = true ↔
    g ≠ f ∧ g.final = true ∧ (g.tree = 1 ∨ g.tree = f.tree) ∧ g.min ≤ f.min ∧ f.max ≤ g.max ∧ 0 < g.max := by
  simp [covers, and_assoc]

theorem durablyVisible_run {c c' : CState} {xs : List Event} (h : Accepts c xs c') (hc : CInv c)
    {f : Path} (hf : f.final = true) (hnu : Event.unlink f ∉ xs) (hd : DurablyVisible c.fs f) :
    DurablyVisible c'.fs f := by
  induction h with
  | nil c => exact hd
  | cons h1 _ ih =>
    rw [List.mem_cons, not_or] at hnu
    exact ih (cinv_step hc h1) hnu.2 (durablyVisible_check hc h1 hf (Ne.symm hnu.1) hd)

/-- The unlink of `f` is accepted only beside a durable file that covers it; any other call leaves `f` where it is. -/
theorem cover_step {c c' : CState} {e : Event} (hc : CInv c) (h : check c e = .ok c') {f : Path}
    (hf : f.final = true) (hmax : 0 < f.max) (hd : DurablyVisible c.fs f) :
    ∃ g, Supersedes g f ∧ 0 < g.max ∧ DurablyVisible c'.fs g := by
  by_cases hne : e = .unlink f
  · subst hne
    obtain ⟨g, hg, hcov⟩ := (check_unlink h).2 hf hmax
    obtain ⟨hgf, hfin, htree, hmin, hmx, hpos⟩ := covers_iff.mp hcov
    exact ⟨g, ⟨hfin, hmin, hmx, htree⟩, hpos,
      durablyVisible_check hc h hfin (fun e => hgf (by cases e; rfl)) (hc.dur g hg).2⟩
  · exact ⟨f, supersedes_refl hf, hmax, durablyVisible_check hc h hf hne hd⟩

theorem cover_run {c c' : CState} {xs : List Event} (h : Accepts c xs c') (hc : CInv c)
    {f : Path} (hf : f.final = true) (hmax : 0 < f.max) (hd : DurablyVisible c.fs f) :
    ∃ g, Supersedes g f ∧ 0 < g.max ∧ DurablyVisible c'.fs g := by
  induction h generalizing f with
  | nil c => exact ⟨f, supersedes_refl hf, hmax, hd⟩
  | cons h1 _ ih =>
    obtain ⟨g, hg, hm, hdg⟩ := cover_step hc h1 hf hmax hd
    obtain ⟨g', hg', hm', hd'⟩ := ih (cinv_step hc h1) hg.1 hm hdg
    exact ⟨g', supersedes_trans hg' hg, hm', hd'⟩

end Litestream.Fs
