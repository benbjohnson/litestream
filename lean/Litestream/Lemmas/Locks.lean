import Litestream.Model.Locks
import Litestream.Lemmas.List
/-! `Model/Locks.lean` (C12). Two invariants of the interleaving semantics. A lock held in write mode has one holder
    (`ExclW.step`). Every thread keeps `threadOK`; of the blocked threads of a deadlock take one that waits
    for the highest rank: whoever stands in its way is live, hence blocked too, on something ranked higher still. -/
namespace Litestream.Locks

/-- `stepThread`'s case for a finished thread never applies: an enabled thread has a next event. -/
theorem stepAt_eq_some {s s' : State} {i : Nat} (h : stepAt s i = some s') :
    ∃ t e p, s.threads[i]? = some t ∧ t.rest = e :: p ∧ enabled s t = true ∧
      s' = { threads := s.threads.set i { t with held := applyHeld t.held e, rest := p },
             closed := closedAfter s.closed t.rest } := by
  unfold stepAt at h
  split at h
  · cases h
  next t ht =>
    split at h
    next hen =>
      cases hr : t.rest with
      | nil => simp [enabled, hr] at hen
      | cons e p => exact ⟨t, e, p, ht, hr, hen, by simp [← Option.some.inj h, stepThread, hr]⟩
    · cases h

theorem getElem?_stepAt {s s' : State} {i : Nat} {t : Thread} {e : Event} {p : Path}
    (ht : s.threads[i]? = some t) (hr : t.rest = e :: p) (h : stepAt s i = some s') (j : Nat) :
    s'.threads[j]? =
      if j = i then some { t with held := applyHeld t.held e, rest := p } else s.threads[j]? := by
  obtain ⟨t', e', p', ht', hr', -, rfl⟩ := stepAt_eq_some h
  cases ht.symm.trans ht'
  cases hr.symm.trans hr'
  simp only [List.getElem?_set, (List.getElem?_eq_some_iff.mp ht).1, if_true, eq_comm (a := i)]

theorem forall_mem_stepAt {P : Thread → Prop}
    (hP : ∀ (t : Thread) (e : Event) (p : Path), t.rest = e :: p → P t →
      P { t with held := applyHeld t.held e, rest := p })
    {s s' : State} {i : Nat} (hs : stepAt s i = some s') (h : ∀ t ∈ s.threads, P t) :
    ∀ t ∈ s'.threads, P t := by
  obtain ⟨t, e, p, hti, hr, -, rfl⟩ := stepAt_eq_some hs
  intro u hu
  rcases List.mem_or_eq_of_mem_set hu with hu | rfl
  · exact h u hu
  · exact hP t e p hr (h t (List.mem_of_getElem? hti))

theorem mem_applyHeld {x : LockId × Mode} {h : Held} {e : Event} (hx : x ∈ applyHeld h e) :
    x ∈ h ∨ (∃ c, e = .acq x.1 x.2 c) ∨ e = .tryAcq x.1 x.2 := by
  cases e with
  | acq l m c =>
    rcases List.mem_cons.mp hx with rfl | hx
    · exact .inr (.inl ⟨c, rfl⟩)
    · exact .inl hx
  | tryAcq l m =>
    rcases List.mem_cons.mp hx with rfl | hx
    · exact .inr (.inr rfl)
    · exact .inl hx
  | rel l m => exact .inl (List.mem_of_mem_erase hx)
  | _ => exact .inl hx

theorem mem_applyHeld_of_mem {x : LockId × Mode} {h : Held} {e : Event} (hx : x ∈ h)
    (he : e ≠ .rel x.1 x.2) : x ∈ applyHeld h e := by
  cases e with
  | acq l m c => exact List.mem_cons_of_mem _ hx
  | tryAcq l m => exact List.mem_cons_of_mem _ hx
  | rel l m => exact (List.mem_erase_of_ne (by rintro rfl; exact he rfl)).mpr hx
  | _ => exact hx

theorem holdsAny_iff {s : State} {l : LockId} :
    holdsAny s l = true ↔ ∃ u ∈ s.threads, ∃ y ∈ u.held, y.1 = l := by
  simp [holdsAny]

theorem holdsAny_of_holdsW {s : State} {l : LockId} (h : holdsW s l = true) : holdsAny s l = true := by
  simp only [holdsW, List.any_eq_true, Bool.and_eq_true, beq_iff_eq] at h
  obtain ⟨u, hu, y, hy, hyl, -⟩ := h
  exact holdsAny_iff.mpr ⟨u, hu, y, hy, hyl⟩

def ExclW (l : LockId) (s : State) : Prop :=
  ∀ ⦃i j : Nat⦄ ⦃ti tj : Thread⦄, s.threads[i]? = some ti → s.threads[j]? = some tj →
    (l, Mode.W) ∈ ti.held → (l, Mode.W) ∈ tj.held → i = j

theorem ExclW.step {l : LockId} {s s' : State} {i : Nat} (h : ExclW l s) (hs : stepAt s i = some s') :
    ExclW l s' := by
  obtain ⟨t, e, p, ht, hr, hen, -⟩ := stepAt_eq_some hs
  -- next to another holder the stepped thread holds `l` only if it did before: taking `l` in write mode needs it free
  have hold : ∀ {j : Nat} {u : Thread}, s.threads[j]? = some u → (l, Mode.W) ∈ u.held →
      (l, Mode.W) ∈ applyHeld t.held e → (l, Mode.W) ∈ t.held := by
    intro j u hu hul h
    have hany := holdsAny_iff.mpr ⟨u, List.mem_of_getElem? hu, _, hul, rfl⟩
    rcases mem_applyHeld h with h | ⟨c, rfl⟩ | rfl
    · exact h
    · simp [enabled, hr, hany] at hen
    · simp [enabled, hr, hany] at hen
  intro a b ta tb hta htb ha hb
  rw [getElem?_stepAt ht hr hs] at hta htb
  split at hta <;> split at htb
  · next hai hbi => exact hai.trans hbi.symm
  · next hai _ => cases hta; exact hai.trans (h ht htb (hold htb hb ha) hb)
  · next _ hbi => cases htb; exact (h hta ht ha (hold hta ha hb)).trans hbi.symm
  · exact h hta htb ha hb

theorem rankAbove_iff {rank : Nat → Nat} {base : Nat} {h : Held} {x : Nat} :
    rankAbove rank base h x = true ↔ base ≤ rank x ∧ ∀ y ∈ h, rank y.1 < rank x := by
  simp [rankAbove]

theorem rankFrom_cons {rank : Nat → Nat} {base : Nat} {h : Held} {e : Event} {p : Path}
    (hr : rankFrom rank base h (e :: p) = true) : rankFrom rank base (applyHeld h e) p = true := by
  cases e <;> simp_all [rankFrom, applyHeld]

/-- No enabledness is asked for: a release of something not held makes `heldAfter` fail. -/
theorem heldAfter_cons {h r : Held} {e : Event} {p : Path}
    (hb : heldAfter h (e :: p) = some r) : heldAfter (applyHeld h e) p = some r := by
  cases e <;> simp_all [heldAfter, applyHeld]

theorem heldAfter_dropWaitsUnder (l : LockId) (g : Nat) (h : Held) (p : Path) :
    heldAfter h (dropWaitsUnder l g h p) = heldAfter h p := by
  induction p generalizing h with
  | nil => rfl
  | cons e p ih =>
    cases e with
    | wgWait g' => simp only [dropWaitsUnder]; split <;> simp [heldAfter, applyHeld, ih]
    | _ => simp only [dropWaitsUnder, heldAfter, applyHeld, ih]

theorem threadOK_iff (rank : Nat → Nat) (t : Thread) :
    threadOK rank t = true ↔ rankFrom rank (baseOf rank t.grp) t.held t.rest = true ∧ heldAfter t.held t.rest = some [] := by
  simp [threadOK]

theorem balanced_of_releasesAll {p : Path} (h : ReleasesAll p) : Balanced p := by
  rw [Balanced, h]; rfl

theorem pathOK_iff (rank : Nat → Nat) (base : Nat) (p : Path) :
    pathOK rank base p = true ↔ Balanced p ∧ RankRespecting rank base p ∧ ReleasesAll p := by
  simp only [pathOK, RankRespecting, ReleasesAll, Bool.and_eq_true, beq_iff_eq]
  exact ⟨fun ⟨h1, h2⟩ => ⟨balanced_of_releasesAll h2, h1, h2⟩, fun ⟨_, h1, h2⟩ => ⟨h1, h2⟩⟩

theorem threadOK_step {rank : Nat → Nat} {t : Thread} {e : Event} {p : Path} (hr : t.rest = e :: p)
    (hok : threadOK rank t = true) : threadOK rank { t with held := applyHeld t.held e, rest := p } = true := by
  rw [threadOK_iff, hr] at hok
  exact (threadOK_iff ..).mpr ⟨rankFrom_cons hok.1, heldAfter_cons hok.2⟩

theorem allOK_reachable (rank : Nat → Nat) {s0 s : State}
    (h0 : ∀ t ∈ s0.threads, threadOK rank t = true) (hr : Reachable s0 s) :
    ∀ t ∈ s.threads, threadOK rank t = true := by
  induction hr with
  | refl => exact h0
  | step _ hs ih =>
    obtain ⟨i, hi⟩ := hs
    exact forall_mem_stepAt (fun _ _ _ => threadOK_step) hi ih

def waitRank (rank : Nat → Nat) (t : Thread) : Nat :=
  match t.rest with
  | .acq l _ _ :: _ => rank l
  | .wgWait g :: _ => rank g
  | _ => 0

theorem stuck_blocker {rank : Nat → Nat} {s : State} {t : Thread}
    (hok : threadOK rank t = true) (hst : stuck s t = true) :
    ∃ x, waitRank rank t = rank x ∧ rankAbove rank (baseOf rank t.grp) t.held x = true ∧
      ∃ u ∈ s.threads, (∃ y ∈ u.held, y.1 = x) ∨ (u.grp = some x ∧ u.rest ≠ []) := by
  have hr := ((threadOK_iff rank t).mp hok).1
  cases ht : t.rest with
  | nil => simp [stuck, ht] at hst
  | cons e p =>
    rw [ht] at hr
    cases e with
    | acq l m c =>
      simp only [rankFrom, Bool.and_eq_true] at hr
      refine ⟨l, by simp [waitRank, ht], hr.1, ?_⟩
      -- a reader is blocked by a writer that holds `l`, or by any holder once a writer waits
      have : holdsAny s l = true := by
        cases m <;> simp only [stuck, ht, Bool.or_eq_true, Bool.and_eq_true] at hst
        · exact hst.elim holdsAny_of_holdsW And.left
        · exact hst
      obtain ⟨u, hu, y, hy, hyl⟩ := holdsAny_iff.mp this
      exact ⟨u, hu, .inl ⟨y, hy, hyl⟩⟩
    | wgWait g =>
      simp only [rankFrom, Bool.and_eq_true] at hr
      refine ⟨g, by simp [waitRank, ht], hr.1, ?_⟩
      simp only [stuck, ht, groupDone, Bool.not_eq_true', List.all_eq_false, Bool.or_eq_true,
        List.isEmpty_iff, not_or] at hst
      obtain ⟨u, hu, hg, hrest⟩ := hst
      exact ⟨u, hu, .inr ⟨by simpa using hg, hrest⟩⟩
    | chanRecv c => simp [rankFrom] at hr
    | _ => simp [stuck, ht] at hst

/-- Its negation is not progress: a `tryAcq` on a held lock is neither `stuck` nor `enabled` (a path records the outcome
    its try really had, head of `Model/Locks.lean`). -/
theorem deadlocked_iff {s : State} : Deadlocked s ↔
    (∃ t ∈ s.threads, live t = true) ∧ ∀ t ∈ s.threads, live t = true → stuck s t = true := by
  simp [Deadlocked, deadlocked, Decidable.imp_iff_not_or]

theorem not_deadlocked_of_ok (rank : Nat → Nat) (s : State)
    (hok : ∀ t ∈ s.threads, threadOK rank t = true) : ¬ Deadlocked s := by
  intro hd
  obtain ⟨⟨t0, ht0, hl0⟩, hstuck⟩ := deadlocked_iff.mp hd
  obtain ⟨t, htL, hmax⟩ := exists_max (waitRank rank) (s.threads.filter live)
    (List.ne_nil_of_mem (List.mem_filter.mpr ⟨ht0, hl0⟩))
  obtain ⟨htm, htl⟩ := List.mem_filter.mp htL
  obtain ⟨x, hx, -, u, hu, hblk⟩ := stuck_blocker (hok t htm) (hstuck t htm htl)
  -- `u` is still running: it holds something and releases everything in the end, or it has not finished
  have hlive : live u = true := by
    have hb := ((threadOK_iff rank u).mp (hok u hu)).2
    have : u.rest ≠ [] := by
      rcases hblk with ⟨y, hy, -⟩ | ⟨-, h⟩
      · intro h; rw [h] at hb; rw [Option.some.inj hb] at hy; cases hy
      · exact h
    simp [live, this]
  obtain ⟨x', hx', habove, -⟩ := stuck_blocker (hok u hu) (hstuck u hu hlive)
  obtain ⟨hbase, hheld⟩ := rankAbove_iff.mp habove
  have hle := hmax u (List.mem_filter.mpr ⟨hu, hlive⟩)
  rcases hblk with ⟨y, hy, rfl⟩ | ⟨hg, -⟩
  · have := hheld y hy
    omega
  · rw [hg] at hbase
    simp only [baseOf] at hbase
    omega

end Litestream.Locks
