import Litestream.Lemmas.PlanLoop
/-! What `calcRestorePlan` computes: the snapshot it starts from, and the chain and reach its loop
    ends with, stated without cursors. Core Lean only. -/
namespace Litestream

theorem pickSnapshot_eq (tg : Target) (L : List FileInfo) : pickSnapshot tg L = (L.filter (elig tg)).getLast? := by
  have : ∀ acc : Option FileInfo,
      L.foldl (fun acc f => if elig tg f then some f else acc) acc = ((L.filter (elig tg)).getLast?).or acc := by
    induction L with
    | nil => intro acc; simp
    | cons g L ih =>
      intro acc
      rw [List.foldl_cons, ih, List.filter_cons]
      split
      · cases h : (L.filter (elig tg)).getLast? <;> simp [List.getLast?_cons, h]
      · rfl
  rw [pickSnapshot, this, Option.or_none]

theorem pickSnapshot_none {tg L} : pickSnapshot tg L = none ↔ ∀ f ∈ L, elig tg f = false := by
  rw [pickSnapshot_eq, List.getLast?_eq_none_iff, List.filter_eq_nil_iff]
  simp

theorem pickSnapshot_some {tg L S} (hp : L.Pairwise (fun a b => a.max ≤ b.max)) (h : pickSnapshot tg L = some S) :
    S ∈ L ∧ elig tg S = true ∧ ∀ f ∈ L, elig tg f = true → f.max ≤ S.max := by
  rw [pickSnapshot_eq] at h
  have ⟨h1, h2, h3⟩ := getLast?_filter_eq_some hp h
  exact ⟨h1, h2, fun f hf he => (h3 f hf he).elim (fun h => h ▸ Nat.le_refl _) id⟩

theorem cursorLevels_eq : cursorLevels = (List.range snapshotLevel).reverse := by decide

theorem mem_cursorLevels {l : Nat} : l ∈ cursorLevels ↔ l < snapshotLevel := by
  rw [cursorLevels_eq, List.mem_reverse, List.mem_range]

/-- The checks `calcRestorePlan` makes on what its loop returns; `gap` is `hasGap` of the cursors. -/
def planVerdict (tg : Target) (infos : List FileInfo) (gap : Bool) : Except PlanErr (List FileInfo) :=
  if !infos.isEmpty && tg.txid == 0 && tg.ts.isNone && gap then .error .nonContiguous
  else if infos.isEmpty then .error .txNotAvailable
  else if tg.txid ≠ 0 && decide (lastMax infos < tg.txid) then .error .txNotAvailable
  else .ok infos

theorem planVerdict_spec (tg : Target) (P : List FileInfo) (gap : Bool) :
    match planVerdict tg P gap with
    | .ok P' => P' = P ∧ P ≠ [] ∧ (tg.txid ≠ 0 → tg.txid ≤ lastMax P) ∧ ¬ (tg.txid = 0 ∧ tg.ts = none ∧ gap = true)
    | .error .nonContiguous => P ≠ [] ∧ tg.txid = 0 ∧ tg.ts = none ∧ gap = true
    | .error .txNotAvailable => P = [] ∨ (P ≠ [] ∧ tg.txid ≠ 0 ∧ lastMax P < tg.txid)
    | .error _ => False := by
  unfold planVerdict
  by_cases hg : (!P.isEmpty && tg.txid == 0 && tg.ts.isNone && gap) = true
  · rw [if_pos hg]
    simpa [and_assoc] using hg
  rw [if_neg hg]
  by_cases he : P.isEmpty = true
  · rw [if_pos he]
    exact Or.inl (List.isEmpty_iff.mp he)
  rw [if_neg he]
  have hne : P ≠ [] := by simpa using he
  by_cases hs : (tg.txid ≠ 0 && decide (lastMax P < tg.txid)) = true
  · rw [if_pos hs]
    exact Or.inr ⟨hne, by simpa using hs⟩
  rw [if_neg hs]
  exact ⟨rfl, hne, fun ht => by simpa [ht] using hs, fun ⟨h0, hts, hgap⟩ => hg (by simp [hne, h0, hts, hgap])⟩

theorem calcRestorePlan_both {levels : Nat → List FileInfo} {tg : Target} (h : tg.txid ≠ 0 ∧ tg.ts.isSome = true) :
    calcRestorePlan levels tg = .error .both := by
  have : (tg.txid ≠ 0 && tg.ts.isSome) = true := by simpa using h
  simp only [calcRestorePlan, this, if_true]

theorem pickSnapshot_chain {levels : Nat → List FileInfo} (hwf : LevelsWF levels) (tg : Target) :
    Chain (Usable levels tg) 0 (pickSnapshot tg (levels snapshotLevel)).toList
      (lastMax (pickSnapshot tg (levels snapshotLevel)).toList) ∧
    ∀ f ∈ levels snapshotLevel, elig tg f = true →
      f.max ≤ lastMax (pickSnapshot tg (levels snapshotLevel)).toList := by
  cases h : pickSnapshot tg (levels snapshotLevel) with
  | none => exact ⟨.nil, fun f hf he => by rw [pickSnapshot_none.mp h f hf] at he; cases he⟩
  | some S =>
    have ⟨hS, he, hdom⟩ := pickSnapshot_some hwf.sortedSnap h
    have := hwf.pos _ S hS
    have := hwf.snap S hS
    exact ⟨Chain.cons_iff.mpr ⟨⟨⟨_, Nat.le_refl _, hS⟩, he⟩, by omega, by omega, .nil⟩, hdom⟩

/-- `calcRestorePlan` up to its final checks.  The early return on the snapshot alone is the first
    alternative (target reached) after no round of the loop, so all exits share one statement. -/
theorem calcRestorePlan_run {levels : Nat → List FileInfo} {tg : Target} (hwf : LevelsWF levels)
    (hnb : ¬ (tg.txid ≠ 0 ∧ tg.ts.isSome = true)) :
    ∃ P r gap, Chain (Usable levels tg) 0 P r ∧
      ((tg.txid ≠ 0 ∧ tg.txid ≤ r) ∨
       ((∀ f, InLevels levels f → elig tg f = true → f.min ≤ r + 1 → f.max ≤ r) ∧
        (gap = true ↔ ∃ l, l < snapshotLevel ∧ ∃ f ∈ levels l, r + 1 < f.min))) ∧
      calcRestorePlan levels tg = planVerdict tg P gap := by
  have ⟨h0, hsnap⟩ := pickSnapshot_chain hwf tg
  have hnb' : (tg.txid ≠ 0 && tg.ts.isSome) = false := by simpa using hnb
  unfold calcRestorePlan
  simp only [hnb', Bool.false_eq_true, if_false]
  generalize (pickSnapshot tg (levels snapshotLevel)).toList = infos at h0 hsnap ⊢
  by_cases ht : (tg.txid ≠ 0 && decide (lastMax infos ≥ tg.txid)) = true
  · -- the snapshot alone reaches the target
    rw [if_pos ht]
    simp only [ne_eq, Bool.and_eq_true, decide_eq_true_eq, ge_iff_le] at ht
    have ht1 : tg.txid ≠ 0 := by simpa using ht.1
    refine ⟨infos, _, false, h0, Or.inl ⟨ht1, ht.2⟩, ?_⟩
    have hne : infos ≠ [] := by rintro rfl; exact ht1 (Nat.le_zero.mp ht.2)
    simp [planVerdict, hne, ht1, Nat.not_lt.mpr ht.2]
  · rw [if_neg ht]
    have hinit : AllInv tg levels cursorLevels (lastMax infos)
        (cursorLevels.map fun l => (⟨levels l, none, false⟩ : Cursor)) :=
      All2.of_map (fun l => ⟨[], CInv.init tg (levels l) _⟩) cursorLevels
    generalize (cursorLevels.map fun l => (⟨levels l, none, false⟩ : Cursor)) = cs0 at hinit ⊢
    have ⟨cs', P, r, hloop, hP, hle, hexit⟩ :=
      planLoop_spec (S := Usable levels tg)
        (fun l hl f hf he => ⟨⟨l, Nat.le_of_lt (mem_cursorLevels.mp hl), hf⟩, he⟩)
        (fun l hl => hwf.sortedMin l (mem_cursorLevels.mp hl))
        (Nat.lt_add_of_pos_right (by decide) : measure cs0 < measure cs0 + 2) hinit h0
    rw [hloop]
    refine ⟨P, r, hasGap r cs', hP, hexit.imp id fun ⟨hcl, hgap⟩ => ⟨?_, ?_⟩, rfl⟩
    · intro f ⟨l, hl, hfl⟩ he hmin
      by_cases hl9 : l = snapshotLevel
      · subst hl9; exact Nat.le_trans (hsnap f hfl he) hle
      · exact hcl l (mem_cursorLevels.mpr (by omega)) f hfl he hmin
    · rw [hgap]
      simp only [mem_cursorLevels]

end Litestream
