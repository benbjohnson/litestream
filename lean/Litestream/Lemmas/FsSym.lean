import Litestream.Lemmas.FsRun
/-! Simulation: the symbolic scanner over step lists (`scan`, `WellOrdered`) is sound for the
    acceptor over traces (`check`, `flushOK`). -/
namespace Litestream.Fs

@[simp] theorem tmp_role : Role.tmp.path = tmpPath := rfl
@[simp] theorem final_role : Role.final.path = finalPath := rfl
theorem tmp_ne_final : tmpPath ≠ finalPath := by decide
theorem final_ne_tmp : finalPath ≠ tmpPath := by decide

/-- The scanner's state abstracts the checker's: `clean` is what a `rename tmp final` needs, `pend` what an `ok` needs. -/
structure Sim (σ : Sym) (c : CState) : Prop where
  bound : σ.tmpBound = (c.fs.vol tmpPath).isSome
  clean : ∀ i, c.fs.vol tmpPath = some i → σ.dirty = false → c.fs.synced i = c.fs.written i
  pend : ∀ p ∈ c.pending, σ.pending = true ∧ p = finalPath

theorem Sim.step_fs {σ σ' : Sym} {c : CState} (hR : Sim σ c) {e : Event}
    (hc : check c e = .ok { c with fs := step c.fs e }) (hp : σ'.pending = σ.pending)
    (hb : σ'.tmpBound = ((step c.fs e).vol tmpPath).isSome)
    (hcl : ∀ i, (step c.fs e).vol tmpPath = some i → σ'.dirty = false → (step c.fs e).synced i = (step c.fs e).written i) :
    ∃ c', Accepts c [e] c' ∧ Sim σ' c' :=
  ⟨_, .cons hc (.nil _), hb, hcl, fun p h => hp ▸ hR.pend p h⟩

theorem sim_step {σ σ' : Sym} {c : CState} (st : Step) (hR : Sim σ c) (h : scan σ st = some σ') :
    ∃ c', Accepts c st.events c' ∧ Sim σ' c' := by
  match st, h with
  | .create .final, h | .write .final, h | .extWrite .final, h | .remove .final, h
  | .rename .final _, h | .rename .tmp .tmp, h => nomatch h
  | .create .tmp, h =>
    cases h
    refine hR.step_fs rfl rfl (by simp [step_vol]) (fun i hi _ => ?_)
    simp [step_vol] at hi; subst hi
    simp [step_written, step_synced]
  | .write .tmp, h =>
    cases h
    refine hR.step_fs rfl (by split <;> rfl) ?_ (fun i hi hd => ?_)
    · rw [step_vol, ← hR.bound]; split <;> rfl
    · simp only [step_vol] at hi; rw [hR.bound, hi] at hd; cases hd
  | .extWrite .tmp, h =>
    cases h
    refine ⟨_, .cons rfl (.cons rfl (.nil _)), ?_, fun i hi _ => ?_, hR.pend⟩
    · simp only [step_vol]; exact hR.bound
    · -- the trace is `write; fsync`: whatever `dirty` said, the inode is flushed afterwards
      simp only [step_vol] at hi
      simp [step_synced, step_written, step_vol, hi]
  | .fsync .final, h =>
    cases h
    refine hR.step_fs rfl rfl ((step_vol ..).symm ▸ hR.bound) (fun i hi hd => ?_)
    simp only [step_vol] at hi
    simp only [step_synced, step_written]
    split
    · rfl
    · exact hR.clean i hi hd
  | .fsync .tmp, h =>
    cases h
    refine hR.step_fs rfl (by split <;> rfl) ?_ (fun i hi _ => ?_)
    · rw [step_vol, ← hR.bound]; split <;> rfl
    · rw [step_vol] at hi; simp [step_synced, step_written, hi]
  | .close r, h => cases h; exact ⟨_, .cons rfl (.nil _), hR⟩
  | .ok, h =>
    simp only [scan] at h
    split at h
    · cases h
    · rename_i hp
      cases h
      have : c.pending = [] := List.eq_nil_iff_forall_not_mem.mpr fun p hm => hp (hR.pend p hm).1
      exact ⟨c, .cons (check_marker.mpr ⟨this, rfl⟩) (.nil _), hR⟩
  | .fsyncDir r, h =>
    cases h
    refine ⟨_, .cons rfl (.nil _), hR.bound, hR.clean, fun p hp => ?_⟩
    -- both roles live in directory 1, so nothing stays pending
    simp only [List.mem_filter, decide_eq_true_eq] at hp
    rw [(hR.pend p hp.1).2] at hp
    exact absurd (by cases r <;> rfl) hp.2
  | .remove .tmp, h =>
    cases h
    refine ⟨_, .cons rfl (.nil _), by simp [step_vol], fun i hi => by simp [step_vol] at hi, fun p hp => ?_⟩
    exact hR.pend p (List.mem_filter.mp hp).1
  | .rename .tmp .final, h =>
    simp only [scan] at h
    split at h
    · rename_i hc
      cases h
      simp only [Bool.and_eq_true, Bool.not_eq_true'] at hc
      obtain ⟨i, hi⟩ := Option.isSome_iff_exists.mp (hR.bound ▸ hc.1)
      refine ⟨{ c with fs := step c.fs (.rename tmpPath finalPath), pending := finalPath :: c.pending },
        .cons ?_ (.nil _), by simp [step_vol], fun j hj => by simp [step_vol] at hj, fun p hp => ?_⟩
      · have : tmpPath.final = false ∧ finalPath.final = true := ⟨rfl, rfl⟩
        simp [check, this, hi, hR.clean i hi hc.2]
      · rcases List.mem_cons.mp hp with rfl | hp
        · exact ⟨rfl, rfl⟩
        · exact ⟨rfl, (hR.pend p hp).2⟩
    · cases h

theorem sim_all {σ σ' : Sym} {c : CState} (ss : List Step) (hR : Sim σ c) (h : scanAll σ ss = some σ') :
    ∃ c', Accepts c (traceOfSteps ss) c' ∧ Sim σ' c' := by
  fun_induction scanAll σ ss generalizing c with
  | case1 σ => cases h; exact ⟨c, .nil c, hR⟩  -- `[]`
  | case2 σ s ss σ1 hs ih =>  -- `s` scanned
    obtain ⟨c1, hc1, hR1⟩ := sim_step s hR hs
    obtain ⟨c2, hc2, hR2⟩ := ih hR1 h
    exact ⟨c2, accepts_append.mpr ⟨c1, hc1, hc2⟩, hR2⟩
  | case3 => cases h  -- `s` refused

theorem sim_init : Sim ⟨false, false, false⟩ cinit :=
  ⟨rfl, fun i hi => by simp [cinit, init] at hi, fun p hp => by simp [cinit] at hp⟩

end Litestream.Fs
