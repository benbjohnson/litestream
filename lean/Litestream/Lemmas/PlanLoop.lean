import Litestream.Lemmas.PlanCursor
/-! The planner's list of cursors and its main loop: the one-cursor facts lifted to the list, and
    what the loop returns. Core Lean only. -/
namespace Litestream

/-- `List.Forall₂`, which core does not have: here it relates the levels to their cursors. -/
inductive All2 {α β : Type} (R : α → β → Prop) : List α → List β → Prop
  | nil : All2 R [] []
  | cons {a b as bs} : R a b → All2 R as bs → All2 R (a :: as) (b :: bs)

section
variable {α β γ : Type} {R R' : α → β → Prop} {as : List α} {bs : List β}

theorem All2.imp (h : All2 R as bs) (himp : ∀ a b, R a b → R' a b) : All2 R' as bs := by
  induction h with
  | nil => exact .nil
  | cons h _ ih => exact .cons (himp _ _ h) ih

theorem All2.map_right {R' : α → γ → Prop} {f : β → γ} (h : All2 R as bs)
    (hf : ∀ a b, R a b → R' a (f b)) : All2 R' as (bs.map f) := by
  induction h with
  | nil => exact .nil
  | cons h _ ih => exact .cons (hf _ _ h) ih

theorem All2.of_map {g : α → β} (h : ∀ x, R x (g x)) (xs : List α) : All2 R xs (xs.map g) := by
  induction xs with
  | nil => exact .nil
  | cons x xs ih => exact .cons (h x) ih

theorem All2.flip (h : All2 R as bs) : All2 (fun b a => R a b) bs as := by
  induction h with
  | nil => exact .nil
  | cons h _ ih => exact .cons h ih

theorem All2.left (h : All2 R as bs) : ∀ a ∈ as, ∃ b ∈ bs, R a b := by
  induction h with
  | nil => exact fun _ h => nomatch h
  | cons h _ ih =>
    intro a ha
    rcases List.mem_cons.mp ha with rfl | ha
    · exact ⟨_, List.mem_cons_self, h⟩
    · have ⟨b, hb, hr⟩ := ih a ha
      exact ⟨b, List.mem_cons_of_mem _ hb, hr⟩

theorem All2.right (h : All2 R as bs) : ∀ b ∈ bs, ∃ a ∈ as, R a b :=
  h.flip.left

end

theorem All2.clearAt {α : Type} {R R' : α → Cursor → Prop} {as cs} (h : All2 R as cs) {i : Nat} {c : Cursor}
    (hi : cs[i]? = some c) (himp : ∀ a b, R a b → R' a b) (hc : ∀ a, R a c → R' a { c with cand := none }) :
    All2 R' as (clearAt cs i) := by
  induction h generalizing i with
  | nil => cases hi
  | cons h t ih =>
    cases i with
    | zero => cases hi; exact .cons (hc _ h) (t.imp himp)
    | succ i => exact .cons (himp _ _ h) (ih (by simpa using hi))

def AllInv (tg : Target) (levels : Nat → List FileInfo) (ls : List Nat) (cur : Nat) (cs : List Cursor) : Prop :=
  All2 (fun l c => ∃ pre, CInv tg (levels l) cur c pre) ls cs

def AllFresh (cur : Nat) (cs : List Cursor) : Prop := ∀ c ∈ cs, Fresh cur c

theorem allInv_refresh {tg levels ls cur cs} (h : AllInv tg levels ls cur cs) :
    AllInv tg levels ls cur (cs.map (Cursor.refresh cur tg)) ∧ AllFresh cur (cs.map (Cursor.refresh cur tg)) := by
  have h2 : All2 (fun l c => (∃ pre, CInv tg (levels l) cur c pre) ∧ Fresh cur c) ls
      (cs.map (Cursor.refresh cur tg)) :=
    h.map_right fun _ _ ⟨_, hc⟩ => refresh_inv hc
  exact ⟨h2.imp fun _ _ h => h.1, fun c hc => have ⟨_, _, h⟩ := h2.right c hc; h.2⟩

/-- Dropping the candidate `k` of cursor `i`, at the old position or after the plan has taken `k`. -/
theorem allInv_clearAt {tg levels ls cur cs} {i : Nat} {c : Cursor} {k : FileInfo} (h : AllInv tg levels ls cur cs)
    (hi : cs[i]? = some c) (hk : c.cand = some k) {cur' : Nat} (hle : cur ≤ cur') (hk' : k.max ≤ cur') :
    AllInv tg levels ls cur' (clearAt cs i) :=
  All2.clearAt h hi (fun _ _ ⟨pre, hc⟩ => ⟨pre, hc.mono hle⟩)
    fun _ ⟨pre, hc⟩ => ⟨pre, (hc.mono hle).clear hk hk'⟩

theorem allInv_cand {tg levels ls cur cs} (h : AllInv tg levels ls cur cs) {i : Nat} {c : Cursor} {k : FileInfo}
    (hi : cs[i]? = some c) (hk : c.cand = some k) :
    (∃ l ∈ ls, k ∈ levels l) ∧ elig tg k = true ∧ k.min ≤ cur + 1 :=
  have ⟨l, hl, _, hc⟩ := h.right c (List.mem_of_getElem? hi)
  have ⟨h1, h2⟩ := hc.cand hk
  ⟨⟨l, hl, h1⟩, h2⟩

theorem exit_closed {tg levels ls cur cs} (h : AllInv tg levels ls cur cs) (hf : AllFresh cur cs)
    (hn : ∀ c ∈ cs, c.cand = none) (hs : ∀ l ∈ ls, SortedMin (levels l)) :
    ∀ l ∈ ls, ∀ f ∈ levels l, elig tg f = true → f.min ≤ cur + 1 → f.max ≤ cur := fun l hl =>
  have ⟨c, hc, _, hinv⟩ := h.left l hl
  hinv.closed (hf c hc) (hn c hc) (hs l hl)

theorem hasGap_iff {tg levels ls cur cs} (h : AllInv tg levels ls cur cs) (hf : AllFresh cur cs) :
    hasGap cur cs = true ↔ ∃ l ∈ ls, ∃ f ∈ levels l, cur + 1 < f.min := by
  rw [hasGap, List.any_eq_true]
  constructor
  · intro ⟨c, hc, hg⟩
    have ⟨l, hl, _, hinv⟩ := h.right c hc
    exact ⟨l, hl, (hinv.gap_iff (hf c hc)).mp hg⟩
  · intro ⟨l, hl, hg⟩
    have ⟨c, hc, _, hinv⟩ := h.left l hl
    exact ⟨c, hc, (hinv.gap_iff (hf c hc)).mpr hg⟩

theorem allFresh_clearAt {cur} : ∀ {cs} (i : Nat), AllFresh cur cs → AllFresh cur (clearAt cs i) := by
  intro cs
  induction cs with
  | nil => exact fun _ h => h
  | cons c cs ih =>
    intro i h
    have ⟨h1, h2⟩ := List.forall_mem_cons.mp h
    cases i with
    | zero => exact List.forall_mem_cons.mpr ⟨h1, h2⟩  -- `Fresh` looks at `rest` only
    | succ i => exact List.forall_mem_cons.mpr ⟨h1, ih i h2⟩

/-- Used at `acc = none` only; the accumulator is there for the induction. -/
theorem pickAux_spec (cs : List Cursor) (i : Nat) (acc : Option (Nat × FileInfo)) :
    match pickAux cs i acc with
    | none => acc = none ∧ ∀ c ∈ cs, c.cand = none
    | some (j, k) => acc = some (j, k) ∨ ∃ n c, cs[n]? = some c ∧ c.cand = some k ∧ j = i + n := by
  induction cs generalizing i acc with
  | nil =>
    rw [pickAux]
    cases acc with
    | none => exact ⟨rfl, nofun⟩
    | some jk => exact Or.inl rfl
  | cons c cs ih =>
    -- one step: the accumulator is kept, or replaced by the candidate of `c`
    obtain ⟨acc', hstep, hacc⟩ : ∃ acc', pickAux (c :: cs) i acc = pickAux cs (i + 1) acc' ∧
        ((acc' = acc ∧ (c.cand = none ∨ acc ≠ none)) ∨ ∃ k, c.cand = some k ∧ acc' = some (i, k)) := by
      rw [pickAux]
      cases hc : c.cand with
      | none => exact ⟨acc, rfl, Or.inl ⟨rfl, Or.inl rfl⟩⟩
      | some k =>
        cases acc with
        | none => exact ⟨_, rfl, Or.inr ⟨k, rfl, rfl⟩⟩
        | some jb =>
          dsimp only
          split
          · exact ⟨_, rfl, Or.inr ⟨k, rfl, rfl⟩⟩
          · exact ⟨_, rfl, Or.inl ⟨rfl, Or.inr (by simp)⟩⟩
    rw [hstep]
    have ih := ih (i + 1) acc'
    generalize pickAux cs (i + 1) acc' = res at ih ⊢
    match res, ih with
    | none, ⟨h1, h2⟩ =>
      obtain ⟨rfl, hc⟩ | ⟨k, _, h⟩ := hacc
      · exact ⟨h1, List.forall_mem_cons.mpr ⟨hc.resolve_right (· h1), h2⟩⟩
      · rw [h1] at h; cases h
    | some (j, k), .inr ⟨n, d, hd, hk, hj⟩ =>
      exact Or.inr ⟨n + 1, d, hd, hk, by omega⟩
    | some (j, k), .inl h1 =>
      obtain ⟨rfl, _⟩ | ⟨k', hk', h⟩ := hacc
      · exact Or.inl h1
      · rw [h1] at h; cases h
        exact Or.inr ⟨0, c, rfl, hk', rfl⟩

theorem pickNext_none {cs} (h : pickNext cs = none) : ∀ c ∈ cs, c.cand = none := by
  have := pickAux_spec cs 0 none
  rw [← pickNext, h] at this
  exact this.2

theorem pickNext_some {cs i k} (h : pickNext cs = some (i, k)) : ∃ c, cs[i]? = some c ∧ c.cand = some k := by
  have := pickAux_spec cs 0 none
  rw [← pickNext, h] at this
  obtain h | ⟨n, c, h1, h2, rfl⟩ := this
  · cases h
  · exact ⟨c, by simpa using h1, h2⟩

theorem measure_cons (c : Cursor) (cs : List Cursor) : measure (c :: cs) = csize c + measure cs := rfl

theorem measure_refresh_le (tg : Target) (cur : Nat) (cs : List Cursor) :
    measure (cs.map (Cursor.refresh cur tg)) ≤ measure cs := by
  induction cs with
  | nil => exact Nat.le_refl _
  | cons c cs ih =>
    simp only [List.map_cons, measure_cons]
    have := csize_refresh_le tg cur c
    omega

theorem measure_clearAt {cs : List Cursor} {i : Nat} {c : Cursor} {k : FileInfo} (hi : cs[i]? = some c)
    (hk : c.cand = some k) : measure (clearAt cs i) + 1 = measure cs := by
  induction cs generalizing i with
  | nil => cases hi
  | cons c0 cs ih =>
    cases i with
    | zero =>
      cases hi
      rw [clearAt, measure_cons, measure_cons, csize, csize, hk]
      exact Nat.add_right_comm _ _ _
    | succ i =>
      have := ih (i := i) (by simpa using hi)
      rw [clearAt, measure_cons, measure_cons]
      omega

/-- The loop stops on reaching the target (first alternative) or with no candidate left (second).
    Termination and invariant come from one induction on the fuel: a round that goes on clears one
    candidate (`measure_clearAt`), and `refresh` does not raise the measure.
    Which candidate `pickNext` takes plays no role: any candidate beyond `cur` extends the plan and closure at
    exit does the rest; of `better` only the `max` clause is used, inside one cursor (`CInv.dom`). -/
theorem planLoop_spec {tg : Target} {levels : Nat → List FileInfo} {ls : List Nat} {S : FileInfo → Prop}
    (hS : ∀ l ∈ ls, ∀ f ∈ levels l, elig tg f = true → S f) (hs : ∀ l ∈ ls, SortedMin (levels l))
    {fuel : Nat} {cs : List Cursor} {infos : List FileInfo} {cur : Nat} (hfuel : measure cs < fuel)
    (hinv : AllInv tg levels ls cur cs) (hchain : Chain S 0 infos cur) :
    ∃ cs' infos' cur', planLoop tg fuel cs infos cur = some (cs', infos', cur') ∧ Chain S 0 infos' cur' ∧
      cur ≤ cur' ∧ ((tg.txid ≠ 0 ∧ tg.txid ≤ cur') ∨
       ((∀ l ∈ ls, ∀ f ∈ levels l, elig tg f = true → f.min ≤ cur' + 1 → f.max ≤ cur') ∧
        (hasGap cur' cs' = true ↔ ∃ l ∈ ls, ∃ f ∈ levels l, cur' + 1 < f.min))) := by
  induction fuel generalizing cs infos cur with
  | zero => omega
  | succ fuel ih =>
    have ⟨hinv1, hfresh1⟩ := allInv_refresh hinv
    have hm := measure_refresh_le tg cur cs
    cases hp : pickNext (cs.map (Cursor.refresh cur tg)) with
    | none =>
      exact ⟨_, _, _, by rw [planLoop, hp], hchain, Nat.le_refl _,
        Or.inr ⟨exit_closed hinv1 hfresh1 (pickNext_none hp) hs, hasGap_iff hinv1 hfresh1⟩⟩
    | some ik =>
      obtain ⟨i, k⟩ := ik
      have ⟨c, hc1, hc2⟩ := pickNext_some hp
      have ⟨⟨l, hl, hkl⟩, hke, hkm⟩ := allInv_cand hinv1 hc1 hc2
      have hcl := measure_clearAt hc1 hc2
      rw [planLoop, hp]
      dsimp only
      by_cases hst : k.max ≤ cur
      · rw [if_pos hst]
        exact ih (by omega) (allInv_clearAt hinv1 hc1 hc2 (Nat.le_refl _) hst) hchain
      · rw [if_neg hst]
        have hchain' := hchain.snoc (hS l hl k hkl hke) hkm (by omega)
        by_cases htg : (tg.txid ≠ 0 && decide (k.max ≥ tg.txid)) = true
        · rw [if_pos htg]
          simp only [ne_eq, Bool.and_eq_true, decide_eq_true_eq] at htg
          exact ⟨_, _, _, rfl, hchain', by omega, Or.inl ⟨by simpa using htg.1, htg.2⟩⟩
        · rw [if_neg htg]
          have ⟨cs', infos', cur', h1, h2, h3, h4⟩ :=
            ih (by omega) (allInv_clearAt hinv1 hc1 hc2 (by omega) (Nat.le_refl _)) hchain'
          exact ⟨cs', infos', cur', h1, h2, by omega, h4⟩

end Litestream
