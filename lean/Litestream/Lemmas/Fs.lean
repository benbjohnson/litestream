import Litestream.Model.Fs
/-! The file-system model by itself (C11, C03): what `step` does to each component of the state, where
    bindings come from, and the structural invariant `FsInv` that holds along every trace, accepted or not. -/
namespace Litestream.Fs

@[simp] theorem upd_same {α β : Type} [DecidableEq α] (f : α → β) (a : α) (b : β) : upd f a b a = b := by simp [upd]
theorem upd_other {α β : Type} [DecidableEq α] (f : α → β) (a x : α) (b : β) (h : x ≠ a) : upd f a b x = f x := by simp [upd, h]

/-- `upd` in the shape `touch_eq` and `fsync_eq` meet it after `cases s.vol p`. -/
theorem upd_ite {β : Type} (f g : Nat → β) (j : Nat) :
    upd f j (g j) = fun i => if some j = some i then g i else f i := by
  funext i
  by_cases h : i = j
  · rw [h, upd_same, if_pos rfl]
  · rw [upd_other _ _ _ _ h, if_neg (fun e => h (Option.some.inj e).symm)]

theorem touch_eq (s : State) (p : Path) :
    s.touch p = { s with written := fun i => if s.vol p = some i then s.written i + 1 else s.written i } := by
  unfold State.touch
  cases s.vol p with
  | none => rfl
  | some j => exact congrArg (fun w => ({ s with written := w } : State)) (upd_ite _ (fun i => s.written i + 1) j)

theorem fsync_eq (s : State) (p : Path) :
    step s (.fsync p) = { s with synced := fun i => if s.vol p = some i then s.written i else s.synced i } := by
  simp only [step]
  cases s.vol p with
  | none => rfl
  | some j => exact congrArg (fun w => ({ s with synced := w } : State)) (upd_ite _ s.written j)

theorem step_next (s : State) (e : Event) :
    (step s e).next = match e with
      | .create _ => s.next + 1
      | _ => s.next := by
  cases e with
  | write q | truncate q => show (s.touch q).next = _; rw [touch_eq]
  | fsync q => rw [fsync_eq]
  | _ => rfl

theorem step_vol (s : State) (e : Event) (p : Path) :
    (step s e).vol p = match e with
      | .create q => if p = q then some s.next else s.vol p
      | .unlink q => if p = q then none else s.vol p
      | .rename a b => if p = a then none else if p = b then s.vol a else s.vol p
      | _ => s.vol p := by
  cases e with
  | write q | truncate q => show (s.touch q).vol p = _; rw [touch_eq]
  | fsync q => rw [fsync_eq]
  | _ => rfl

/-- `rename a b` binds `b` first and unbinds `a` after: for `a = b` the name's own binding is recorded once
    more on the way. -/
theorem step_may (s : State) (e : Event) (p : Path) :
    (step s e).may p = match e with
      | .create q => if p = q then some s.next :: s.may q else s.may p
      | .unlink q => if p = q then none :: s.may q else s.may p
      | .rename a b =>
        if p = a then none :: (if a = b then s.vol a :: s.may b else s.may a)
        else if p = b then s.vol a :: s.may b else s.may p
      | .fsyncDir d => if p.dir = d then [s.vol p] else s.may p
      | _ => s.may p := by
  cases e with
  | write q | truncate q => show (s.touch q).may p = _; rw [touch_eq]
  | fsync q => rw [fsync_eq]
  | _ => rfl

theorem step_written (s : State) (e : Event) (i : Nat) :
    (step s e).written i = match e with
      | .create _ => if i = s.next then 0 else s.written i
      | .write p | .truncate p => if s.vol p = some i then s.written i + 1 else s.written i
      | _ => s.written i := by
  cases e with
  | write q | truncate q => show (s.touch q).written i = _; rw [touch_eq]
  | fsync q => rw [fsync_eq]
  | _ => rfl

theorem step_synced (s : State) (e : Event) (i : Nat) :
    (step s e).synced i = match e with
      | .create _ => if i = s.next then 0 else s.synced i
      | .fsync p => if s.vol p = some i then s.written i else s.synced i
      | _ => s.synced i := by
  cases e with
  | write q | truncate q => show (s.touch q).synced i = _; rw [touch_eq]
  | fsync q => rw [fsync_eq]
  | _ => rfl

theorem step_next_le (s : State) (e : Event) : s.next ≤ (step s e).next := by
  rw [step_next]; split <;> omega

theorem vol_step_some {s : State} {e : Event} {p : Path} {i : Nat} (h : (step s e).vol p = some i) :
    s.vol p = some i ∨ (e = .create p ∧ i = s.next) ∨ ∃ a, e = .rename a p ∧ s.vol a = some i := by
  rw [step_vol] at h
  split at h
  · -- create
    split at h
    · rename_i hp; cases h; exact .inr (.inl ⟨by rw [hp], rfl⟩)
    · exact .inl h
  · -- unlink
    split at h
    · cases h
    · exact .inl h
  · -- rename
    split at h
    · cases h
    · split at h
      · rename_i hp; exact .inr (.inr ⟨_, by rw [hp], h⟩)
      · exact .inl h
  · exact .inl h

structure FsInv (s : State) : Prop where
  /-- no hard links: an inode has at most one name -/
  inj : ∀ p q i, s.vol p = some i → s.vol q = some i → p = q
  /-- `create` hands out `s.next`, which no binding a crash may leave refers to yet -/
  alloc : ∀ p i, some i ∈ s.may p → i < s.next
  /-- what a name shows now is among what a crash may leave under it -/
  volMay : ∀ p, s.vol p ∈ s.may p

theorem FsInv.allocV {s : State} (h : FsInv s) {p : Path} {i : Nat} (hv : s.vol p = some i) : i < s.next :=
  h.alloc p i (hv ▸ h.volMay p)

theorem fsInv_init : FsInv init := by
  constructor <;> simp [init]

theorem vol_step_new {s : State} (h : FsInv s) {e : Event} {p : Path} {i : Nat}
    (hnew : (e = .create p ∧ i = s.next) ∨ ∃ a, e = .rename a p ∧ s.vol a = some i)
    {q : Path} (hq : (step s e).vol q = some i) : q = p := by
  rcases hnew with ⟨rfl, rfl⟩ | ⟨a, rfl, ha⟩
  · rcases vol_step_some hq with hq' | ⟨he, _⟩ | ⟨_, he, _⟩
    · exact absurd (h.allocV hq') (Nat.lt_irrefl _)
    · cases he; rfl
    · cases he
  · rcases vol_step_some hq with hq' | ⟨he, _⟩ | ⟨_, he, _⟩
    · -- `q` kept the inode that `a` had, so `q = a`; but the rename unbound `a`
      rw [h.inj q a i hq' ha] at hq
      simp only [step_vol, if_true, reduceCtorEq] at hq
    · cases he
    · cases he; rfl

theorem step_may_cases {s : State} (h : FsInv s) (e : Event) (p : Path) :
    ((step s e).vol p = s.vol p ∧ (step s e).may p = s.may p) ∨
      ∃ l, (step s e).may p = (step s e).vol p :: l ∧ ∀ b ∈ l, b ∈ s.may p := by
  cases e with
  | create q | unlink q =>
    simp only [step_vol, step_may]
    split
    · rename_i hpq; subst hpq; exact .inr ⟨_, rfl, fun _ hb => hb⟩
    · exact .inl ⟨rfl, rfl⟩
  | rename a c =>
    simp only [step_vol, step_may]
    split
    · rename_i hpa
      subst hpa
      refine .inr ⟨_, rfl, fun b hb => ?_⟩
      split at hb
      · -- `rename p p`
        rename_i hpc
        subst hpc
        rcases List.mem_cons.mp hb with rfl | hb
        · exact h.volMay p
        · exact hb
      · exact hb
    · split
      · rename_i hpc; subst hpc; exact .inr ⟨_, rfl, fun _ hb => hb⟩
      · exact .inl ⟨rfl, rfl⟩
  | fsyncDir d =>
    simp only [step_may]
    split
    · exact .inr ⟨[], rfl, fun _ hb => nomatch hb⟩
    · exact .inl ⟨rfl, rfl⟩
  | _ => exact .inl ⟨step_vol .., step_may ..⟩

theorem may_step_mem {s : State} (h : FsInv s) {e : Event} {p : Path} {b : Option Nat}
    (hb : b ∈ (step s e).may p) : b = (step s e).vol p ∨ b ∈ s.may p := by
  rcases step_may_cases h e p with ⟨-, hm⟩ | ⟨l, hm, hl⟩
  · exact .inr (hm ▸ hb)
  · rw [hm] at hb
    exact (List.mem_cons.mp hb).imp_right (hl b)

theorem may_step_some {s : State} (h : FsInv s) {e : Event} {p : Path} {i : Nat}
    (hm : some i ∈ (step s e).may p) :
    some i ∈ s.may p ∨ (e = .create p ∧ i = s.next) ∨ ∃ a, e = .rename a p ∧ s.vol a = some i := by
  rcases may_step_mem h hm with hv | hm
  · exact (vol_step_some hv.symm).imp_left fun (hv : s.vol p = some i) => hv ▸ h.volMay p
  · exact .inl hm

theorem fsInv_step {s : State} (h : FsInv s) (e : Event) : FsInv (step s e) := by
  refine ⟨fun p q i hp hq => ?_, fun p i hm => ?_, fun p => ?_⟩
  · rcases vol_step_some hp with hp' | hnew
    · rcases vol_step_some hq with hq' | hnew
      · exact h.inj p q i hp' hq'
      · exact vol_step_new h hnew hp
    · exact (vol_step_new h hnew hq).symm
  · have hle := step_next_le s e
    rcases may_step_some h hm with hm | ⟨rfl, rfl⟩ | ⟨a, _, hv⟩
    · exact Nat.lt_of_lt_of_le (h.alloc p i hm) hle
    · rw [step_next]; exact Nat.lt_succ_self _
    · exact Nat.lt_of_lt_of_le (h.allocV hv) hle
  · rcases step_may_cases h e p with ⟨hv, hm⟩ | ⟨l, hm, -⟩
    · rw [hv, hm]; exact h.volMay p
    · rw [hm]; exact List.mem_cons_self

theorem run_append (xs ys : List Event) : run (xs ++ ys) = ys.foldl step (run xs) := by
  simp [run]

theorem run_eq_foldl_drop (tr : List Event) (k : Nat) : run tr = (tr.drop k).foldl step (killState tr k) := by
  rw [killState, ← run_append, List.take_append_drop]

theorem fsInv_foldl {s : State} (h : FsInv s) : ∀ tr : List Event, FsInv (tr.foldl step s)
  | [] => h
  | e :: es => fsInv_foldl (fsInv_step h e) es

theorem fsInv_run (tr : List Event) : FsInv (run tr) := fsInv_foldl fsInv_init tr

end Litestream.Fs
